import IncanModel.Tool.ModuleTree
import IncanModel.Lemmas.Cargo
/-
Lemmas for the module-tree model: membership in `dedup` (which has no duplicates), in `dirChildren` and in the children
recorded for a directory; sorting after `dedup` depends only on the set of elements.
-/
namespace Incan.ModuleTree
open Incan.Cargo

theorem mem_dedup (l : List Name) (a : Name) : a ∈ dedup l ↔ a ∈ l := by
  fun_induction dedup l with
  | case1 => rfl
  | case2 x xs hc ih =>
    rw [List.mem_cons, ← ih]
    exact (or_iff_right_of_imp fun e => e ▸ List.contains_iff_mem.1 hc).symm
  | case3 x xs _ ih => rw [List.mem_cons, List.mem_cons, ih]

theorem nodup_dedup (l : List Name) : (dedup l).Nodup := by
  fun_induction dedup l with
  | case1 => exact List.nodup_nil
  | case2 _ _ _ ih => exact ih
  | case3 x xs hc ih => exact List.nodup_cons.2 ⟨fun h => hc (List.contains_iff_mem.2 h), ih⟩

theorem sorted_dedup_eq (l1 l2 : List Name) (h : ∀ a, a ∈ l1 ↔ a ∈ l2) :
    (dedup l1).mergeSort lexLe = (dedup l2).mergeSort lexLe :=
  sortByName_eq_of_perm id
    ((List.perm_ext_iff_of_nodup (nodup_dedup l1) (nodup_dedup l2)).2 fun a => by rw [mem_dedup, mem_dedup, h])
    fun _ _ _ _ e => e

theorem mem_dirChildren (paths : List Path) (dir : Path) (c : Name) :
    (dir, c) ∈ dirChildren paths ↔ ∃ p ∈ paths, ∃ i, i < p.length ∧ p.take i = dir ∧ p[i]? = some c := by
  induction paths with
  | nil => simp [dirChildren]
  | cons q rest ih =>
    simp only [dirChildren, List.mem_append, List.mem_filterMap, List.mem_range, Option.map_eq_some_iff,
      Prod.mk.injEq, ih, List.mem_cons, exists_eq_or_imp, exists_eq_right_right, and_comm (b := _ = dir)]

theorem mem_recorded (l : List (Path × Name)) (dir : Path) (c : Name) :
    c ∈ (l.filter (fun e => e.1 == dir)).map (·.2) ↔ (dir, c) ∈ l := by
  simp only [List.mem_map, List.mem_filter, beq_iff_eq, Prod.exists, exists_eq_right]

end Incan.ModuleTree
