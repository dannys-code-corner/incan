import IncanModel.Sem.CoreTyping
/-
The simulation `Sim` between the checker's scopes and rustc's scopes of the core fragment: what the two lookups return
after `declare`, and how `Sim` fares when a block scope is pushed or a binding is declared on both sides, on the
checker's side only (a shadow entry) or on rustc's side only (a repeated `let mut`).
-/
namespace Incan.Core

/-- The checker's scopes and rustc's scopes describe the same variables: every name resolves to the same
type and mutability, and whatever is bound in rustc's innermost block is bound in the checker's. -/
def Sim (c r : Scopes) : Prop :=
  (∀ x, lookupVar c x = lookupVar r x) ∧ (∀ x v, lookupLocal r x = some v → lookupLocal c x = some v)

theorem Sim.push_same {c r : Scopes} (f : List (String × VarInfo)) (h : Sim c r) : Sim (f :: c) (f :: r) := by
  refine ⟨fun x => ?_, fun x v hv => hv⟩
  unfold lookupVar
  rw [h.1 x]

theorem Sim.push_right {c r : Scopes} (h : Sim c r) : Sim c ([] :: r) :=
  ⟨h.1, fun _ _ hv => nomatch hv⟩

theorem lookupVar_declare (s : Scopes) (x y : String) (v : VarInfo) :
    lookupVar (declare s x v) y = if x = y then some v else lookupVar s y := by
  cases s <;> by_cases h : x = y <;> simp [declare, lookupVar, h]

theorem lookupLocal_declare (s : Scopes) (x y : String) (v : VarInfo) :
    lookupLocal (declare s x v) y = if x = y then some v else lookupLocal s y := by
  cases s <;> by_cases h : x = y <;> simp [declare, lookupLocal, h]

theorem lookupLocal_some_lookupVar {s : Scopes} {x : String} {v : VarInfo} (h : lookupLocal s x = some v) :
    lookupVar s x = some v := by
  cases s with
  | nil => cases h
  | cons f rest =>
    obtain ⟨p, hp, rfl⟩ := Option.map_eq_some_iff.1 h
    rw [lookupVar, hp]

theorem Sim.declare_both {c r : Scopes} (h : Sim c r) (x : String) (v : VarInfo) :
    Sim (declare c x v) (declare r x v) := by
  refine ⟨fun y => ?_, fun y w => ?_⟩
  · rw [lookupVar_declare, lookupVar_declare, h.1 y]
  · rw [lookupLocal_declare, lookupLocal_declare]
    split
    · exact id
    · exact h.2 y w

/-- A shadow entry that repeats what the name already resolves to changes nothing for rustc's side. -/
theorem Sim.declare_left {c r : Scopes} (h : Sim c r) {x : String} {v : VarInfo}
    (hv : lookupVar c x = some v) : Sim (declare c x v) r := by
  refine ⟨fun y => ?_, fun y w hw => ?_⟩
  · rw [lookupVar_declare, ← h.1 y]
    split
    · next hxy => rw [← hxy, hv]
    · rfl
  · rw [lookupLocal_declare]
    split
    · next hxy => subst hxy; rw [← hv, lookupLocal_some_lookupVar (h.2 x w hw)]
    · exact h.2 y w hw

/-- A `let mut` that repeats what the checker's block already holds changes nothing for the checker's side. -/
theorem Sim.declare_right {c r : Scopes} (h : Sim c r) {x : String} {v : VarInfo}
    (hl : lookupLocal c x = some v) : Sim c (declare r x v) := by
  refine ⟨fun y => ?_, fun y w => ?_⟩
  · rw [lookupVar_declare, ← h.1 y]
    split
    · next hxy => rw [← hxy, lookupLocal_some_lookupVar hl]
    · rfl
  · rw [lookupLocal_declare]
    split
    · next hxy => rw [← hxy, hl]; exact id
    · exact h.2 y w

theorem declare_ne_nil (s : Scopes) (x : String) (v : VarInfo) : declare s x v ≠ [] := by
  cases s <;> exact List.cons_ne_nil _ _

theorem VarInfo.eq_mk {v : VarInfo} {t : Ty} (h : v.isMut = true ∧ v.ty = t) : v = ⟨t, true⟩ := by
  cases v; cases h.1; cases h.2; rfl

end Incan.Core
