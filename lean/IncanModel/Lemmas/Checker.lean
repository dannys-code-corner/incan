import IncanModel.Sem.Checker
/-
What the definitions of the checker model do: no role is skipped by the traversal; a binding found in the innermost
block is the nearest one of the function, so a plain re-assignment is judged like a mutation through the name; and what
the call-argument functions (`positionals`, `findNamed`, `validateArgs`, `consumedPositionals`, `missingParams`) report
on a call without keyword arguments.
-/
namespace Incan.Checker

theorem skipped_false (r : String) : skipped r = false := by
  simp [skipped, skippedRoles]

theorem lookupLocal_some_lookupInFunction (fs : Frames) (n : String) (b : Binding)
    (h : lookupLocal fs n = some b) : lookupInFunction fs n = some b := by
  cases fs with
  | nil => simp [lookupLocal] at h
  | cons f rest => simp only [lookupLocal] at h; simp [lookupInFunction, h]

/-- A plain re-assignment is judged like a mutation through the name outside any loop: a binding found in the
innermost block is also the nearest one of the function, so looking there first changes nothing. -/
theorem checkAssign_false (fs : Frames) (n : String) : checkAssign fs n false = checkMutateThrough fs [] n := by
  unfold checkAssign checkMutateThrough
  cases hl : lookupLocal fs n with
  | some b => simp [lookupLocal_some_lookupInFunction fs n b hl]
  | none => simp

theorem positionals_all (args : List CArg) (h : ∀ a ∈ args, a.name = none) (i k : Nat) :
    (positionals args i)[k]? = (args[k]?).map fun a => (i + k, a.ty) := by
  induction args generalizing i k with
  | nil => rfl
  | cons a rest ih =>
    simp only [positionals, h a List.mem_cons_self]
    cases k with
    | zero => rfl
    | succ k => simp only [List.getElem?_cons_succ, ih (fun b hb => h b (List.mem_cons_of_mem _ hb)),
        Nat.add_right_comm i 1, Nat.add_assoc i]

theorem findNamed_none (n : String) (args : List CArg) (h : ∀ a ∈ args, a.name = none) (i : Nat) :
    findNamed n args i = none := by
  induction args generalizing i with
  | nil => rfl
  | cons a rest ih =>
    have ha : a.name = none := h a (by simp)
    simp [findNamed, ih (fun b hb => h b (by simp [hb])), ha]

theorem mem_validateArgs (ok : String → String → Bool) (args : List CArg) (h : ∀ a ∈ args, a.name = none)
    (ps : List (String × String)) (k i : Nat) :
    i ∈ validateArgs ok args ps k ↔
      ∃ m a p, i = k + m ∧ args[k + m]? = some a ∧ ps[m]? = some p ∧ ok a.ty p.2 = false := by
  induction ps generalizing k with
  | nil => simp [validateArgs]
  | cons p ps ih =>
    simp only [validateArgs, findNamed_none p.1 args h 0, positionals_all args h 0 k]
    cases hk : args[k]? with
    | none =>
      -- no argument is left for this parameter, nor for any later one
      have hn (m : Nat) : args[k + m]? = none :=
        List.getElem?_eq_none (Nat.le_trans (List.getElem?_eq_none_iff.1 hk) (Nat.le_add_right k m))
      simp [ih, hn]
    | some a =>
      -- `m = 0` is this parameter, `m + 1` a later one
      rw [← Nat.or_exists_add_one]
      simp only [Option.map_some, Nat.zero_add, List.mem_append, ih, Nat.add_right_comm k 1, Nat.add_assoc k,
        List.getElem?_cons_succ, Nat.add_zero, hk, List.getElem?_cons_zero, Option.some.injEq, exists_and_left,
        exists_eq_left']
      refine or_congr ?_ Iff.rfl
      cases ok a.ty p.2 <;> simp

theorem consumed_positional (args : List CArg) (h : ∀ a ∈ args, a.name = none) (ps : List (String × String)) (k : Nat) :
    consumedPositionals args ps k = min (k + ps.length) (max k args.length) := by
  induction ps generalizing k with
  | nil => exact (Nat.min_eq_left (Nat.le_max_left ..)).symm
  | cons p ps ih =>
    simp only [consumedPositionals, findNamed_none p.1 args h 0, positionals_all args h 0 k, List.length_cons]
    cases hk : args[k]? with
    | none =>
      -- no argument is left: the counter stays at `k`, which is already past the arguments
      have hle := List.getElem?_eq_none_iff.1 hk
      simp only [Option.map_none, ih, Nat.max_eq_left hle, Nat.min_eq_right (Nat.le_add_right ..)]
    | some a =>
      have hlt := (List.getElem?_eq_some_iff.1 hk).1
      simp only [Option.map_some, ih, Nat.max_eq_right hlt, Nat.max_eq_right (Nat.le_of_lt hlt),
        Nat.add_right_comm k 1, Nat.add_assoc k]

theorem missingParams_positional (args : List CArg) (h : ∀ a ∈ args, a.name = none) (defaults : List String)
    (ps : List (String × String)) (left : Nat) :
    missingParams args defaults ps left = ((ps.drop left).map (·.1)).filter (!defaults.contains ·) := by
  induction ps generalizing left with
  | nil => simp [missingParams]
  | cons p ps ih =>
    have hany : args.any (fun a => a.name == some p.1) = false := by
      rw [List.any_eq_false]; intro a ha; simp [h a ha]
    simp only [missingParams, hany, Bool.false_eq_true, if_false, ih]
    cases left with
    | zero => by_cases hc : p.1 ∈ defaults <;> simp [hc]
    | succ l => simp

end Incan.Checker
