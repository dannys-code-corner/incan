import IncanModel.Kernel.Policy
/-
What the definitions of the numeric policy do.  On numeric operands every phase (checker, lowering, emitter) computes the
one type `binTy`, each by unfolding; the finite policy table is compared with the documented one by case analysis over
the whole table (`specBin_ofNum`).  The literal walkers on the source and on the IR agree; after the promotions the
policy asks for, both operands have the result's kind.
-/
namespace Incan.Policy

theorem int_result_operands {op : NumOp} {l r : NumTy} {k : Option PowKind}
    (h : resultNumericType op l r k = .int) : l = .int ∧ r = .int := by
  -- with a `Float` operand every row of the table computes to `Float`, so `h` is `float = int`
  cases l with
  | float => cases op <;> cases h
  | int =>
    cases r with
    | float => cases op <;> cases h
    | int => exact ⟨rfl, rfl⟩

/-- After the promotions the policy asks for, both operands have the result's kind. -/
theorem promotion_kinds (op : NumOp) (l r : NumTy) (k : Option PowKind) :
    (if (needsFloatPromotion op l r k).1 then NumTy.float else l) = resultNumericType op l r k ∧
    (if (needsFloatPromotion op l r k).2 then NumTy.float else r) = resultNumericType op l r k := by
  unfold needsFloatPromotion
  cases ht : resultNumericType op l r k with
  | int => obtain ⟨rfl, rfl⟩ := int_result_operands ht; exact ⟨rfl, rfl⟩
  | float => cases l <;> cases r <;> exact ⟨rfl, rfl⟩

theorem specBin_ne_unknown (op : NumOp) (a b : Ty) (c : Bool) : specBin op a b c ≠ .unknown := by
  fun_cases specBin op a b c <;> nofun

theorem specType_ne_unknown (e : Expr) : specType e ≠ .unknown := by
  induction e with
  | var t => cases t <;> simp [specType, Ty.ofNum]
  | neg e ih | paren e ih => exact ih
  | bin op l r _ _ => exact specBin_ne_unknown _ _ _ _
  | _ => simp [specType]

theorem specType_numeric {e : Expr} (h : (specType e != .bool) = true) : ∃ a, specType e = Ty.ofNum a := by
  cases hs : specType e with
  | int => exact ⟨.int, rfl⟩
  | float => exact ⟨.float, rfl⟩
  | bool => simp [hs] at h
  | unknown => exact absurd hs (specType_ne_unknown e)

/-- "Is a non-negative literal" in terms of the literal that the adapters extract. -/
theorem isNonNegIntLiteral_eq (r : Expr) : isNonNegIntLiteral r = (extractIntLiteralAst r).any (0 ≤ ·) := by
  induction r with
  | intLit n => simp [isNonNegIntLiteral, extractIntLiteralAst]
  | neg e _ =>
    unfold isNonNegIntLiteral extractIntLiteralAst
    cases stripParens e with
    | intLit n => simp only [Option.any_some, decide_eq_decide]; omega
    | _ => rfl
  | paren e ih => exact ih
  | _ => rfl

theorem powKindAst_nonNeg (r : Expr) : powKindAst r .int = .nonNegLit ↔ isNonNegIntLiteral r = true := by
  rw [isNonNegIntLiteral_eq]
  unfold powKindAst fromLiteralInfo
  cases extractIntLiteralAst r with
  | none => simp
  | some v => by_cases hv : 0 ≤ v <;> simp [hv]

/-- Under a unary minus both extractors look at the operand with its parentheses stripped. -/
theorem extractIntLiteralIr_neg (e : Expr) (t : Ty) :
    extractIntLiteralIr (.neg (lower e) t) = extractIntLiteralAst (.neg e) := by
  induction e with
  | paren e ih => exact ih
  | _ => rfl

/-- After the fix, the emitter's IR-based exponent classification sees exactly what the checker's and
the lowering's AST-based classification saw. -/
theorem extract_ir_eq_ast (r : Expr) : extractIntLiteralIr (lower r) = extractIntLiteralAst r := by
  induction r with
  | neg e _ => exact extractIntLiteralIr_neg e _
  | paren e ih => exact ih
  | _ => rfl

theorem Ty.toNum_ofNum (t : NumTy) : (Ty.ofNum t).toNum = some t := by cases t <;> rfl

theorem convTy_ofNum (a : NumTy) (c : Bool) : convTy (Ty.ofNum a) c = Ty.ofNum (if c then .float else a) := by
  cases c <;> rfl

/-- What every phase computes for `l op r` on operands of kinds `a` and `b`, `k` being the exponent's kind. -/
def binTy (op : NumOp) (a b : NumTy) (k : PowKind) : Ty :=
  if op.isComparison then .bool else Ty.ofNum (resultNumericType op a b (if op = .pow then some k else none))

theorem checkBin_ofNum (op : NumOp) (a b : NumTy) (r : Expr) :
    checkBin op (Ty.ofNum a) (Ty.ofNum b) r = binTy op a b (powKindAst r (Ty.ofNum b)) := by
  simp only [checkBin, Ty.toNum_ofNum, binTy]

theorem binaryResultType_ofNum (op : NumOp) (a b : NumTy) (k : PowKind) :
    binaryResultType (Ty.ofNum a) (Ty.ofNum b) op (if op = .pow then some k else none) = binTy op a b k := by
  simp only [binaryResultType, Ty.toNum_ofNum, binTy]

/-- The emitted shape type-checks in Rust, at the policy's type. -/
theorem rustTypeOfBin_determinePlan (op : NumOp) {l r : Ir} {a b : NumTy} (hl : l.ty = Ty.ofNum a)
    (hr : r.ty = Ty.ofNum b) :
    rustTypeOfBin op (determinePlan op l r) (Ty.ofNum a) (Ty.ofNum b) = some (binTy op a b (powKindIr r)) := by
  -- after the plan's conversions both operands have the result's kind `t`, so only `op` and `t` matter
  obtain ⟨h1, h2⟩ := promotion_kinds op a b (if op = .pow then some (powKindIr r) else none)
  unfold determinePlan rustTypeOfBin binTy
  simp only [hl, hr, Ty.toNum_ofNum, convTy_ofNum, h1, h2]
  cases op with
  | div => rfl
  | _ => generalize resultNumericType _ a b _ = t; cases t <;> rfl

/-- The policy table is the documented table (`k` matters for `int ** int` only). -/
theorem specBin_ofNum (op : NumOp) (a b : NumTy) (k : PowKind) (c : Bool)
    (hk : b = .int → (k = .nonNegLit ↔ c = true)) :
    specBin op (Ty.ofNum a) (Ty.ofNum b) c = binTy op a b k := by
  cases op with
  | pow =>
    cases a with
    | float => rfl
    | int =>
      cases b with
      | float => rfl
      | int =>
        cases c with
        | true => rw [(hk rfl).2 rfl]; rfl
        | false =>
          cases k with
          | nonNegLit => exact absurd ((hk rfl).1 rfl) Bool.false_ne_true
          | _ => rfl
  | _ => cases a <;> cases b <;> rfl

end Incan.Policy
