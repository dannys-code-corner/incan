/-
Pure `Int` facts relating truncated division (what Rust's `/`, `%` compute) to floored division
(what Python's `//`, `%` compute).
-/
namespace Incan.IntDiv

/-- The adjustment test used by every kernel. -/
abbrev adj (r b : Int) : Prop := (r > 0 ∧ b < 0) ∨ (r < 0 ∧ b > 0)

theorem adj_signs {r b : Int} (h : adj r b) : r < 0 ∧ 0 ≤ b ∨ 0 ≤ r ∧ b < 0 :=
  h.elim (fun h => .inr ⟨Int.le_of_lt h.1, h.2⟩) (fun h => .inl ⟨h.1, Int.le_of_lt h.2⟩)

theorem tmod_bounds_pos (a : Int) {b : Int} (h : 0 < b) : -b < a.tmod b ∧ a.tmod b < b :=
  ⟨Int.lt_tmod_of_pos a h, Int.tmod_lt_of_pos a h⟩

theorem tmod_bounds_neg (a : Int) {b : Int} (h : b < 0) : b < a.tmod b ∧ a.tmod b < -b := by
  have h1 := tmod_bounds_pos a (b := -b) (by omega)
  rw [Int.tmod_neg] at h1
  omega

/-- Floor quotient and remainder from the truncated ones: when the remainder and the divisor have
opposite signs the quotient goes down by one and the remainder takes the divisor's sign.  Each of the
four cases is the uniqueness of floored division for the adjusted pair. -/
theorem fdiv_fmod_of_tdiv_tmod (a b : Int) (hb : b ≠ 0) :
    a.fdiv b = (if adj (a.tmod b) b then a.tdiv b - 1 else a.tdiv b) ∧
    a.fmod b = (if adj (a.tmod b) b then a.tmod b + b else a.tmod b) := by
  have hid := Int.tmod_add_mul_tdiv a b
  by_cases hpos : 0 < b
  · have hbd := tmod_bounds_pos a hpos
    by_cases hadj : adj (a.tmod b) b
    · rw [if_pos hadj, if_pos hadj, Int.fdiv_fmod_unique hpos, Int.mul_sub, Int.mul_one]
      refine ⟨?_, ?_, ?_⟩ <;> omega
    · rw [if_neg hadj, if_neg hadj, Int.fdiv_fmod_unique hpos]
      exact ⟨hid, by omega, hbd.2⟩
  · have hneg : b < 0 := by omega
    have hbd := tmod_bounds_neg a hneg
    by_cases hadj : adj (a.tmod b) b
    · rw [if_pos hadj, if_pos hadj, Int.fdiv_fmod_unique' hneg, Int.mul_sub, Int.mul_one]
      refine ⟨?_, ?_, ?_⟩ <;> omega
    · rw [if_neg hadj, if_neg hadj, Int.fdiv_fmod_unique' hneg]
      exact ⟨hid, hbd.1, by omega⟩

end Incan.IntDiv
