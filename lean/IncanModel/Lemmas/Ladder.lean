import IncanModel.Syntax.Ladder
/-
Lemmas for the ladder round trip (C08).  `Conv p r`: the fuel-indexed computation `p` returns `r` for every
sufficiently large fuel.  The parser is used through three such judgements (`Parses`, `Loops`, `PostLoops`) and
one rule per branch of `parse` / `loop` / `postLoop`.  Two tables over tokens say where a token can stand:
`contLevel` (the level at which it continues an expression after a complete operand) and `preLevel` (the level
whose prefix operator it opens).
-/
namespace Incan.Ladder

def Conv {α : Type} (p : Nat → Option α) (r : α) : Prop := ∃ f0, ∀ f, f0 ≤ f → p f = some r

abbrev Res := Expr × List Tok

theorem Conv.unique {α : Type} {p : Nat → Option α} {a b : α} (ha : Conv p a) (hb : Conv p b) : a = b := by
  obtain ⟨f₁, ha⟩ := ha
  obtain ⟨f₂, hb⟩ := hb
  exact Option.some.inj ((ha (f₁ + f₂) (Nat.le_add_right ..)).symm.trans (hb (f₁ + f₂) (Nat.le_add_left ..)))

/-- One unfolding of a fuel-indexed function: if `q (f + 1)` returns `c` whenever `p₁ f` and `p₂ f` have
returned `a` and `b`, then `q` converges as soon as `p₁` and `p₂` do. -/
theorem Conv.step₂ {α β γ : Type} {p₁ : Nat → Option α} {p₂ : Nat → Option β} {q : Nat → Option γ}
    {a : α} {b : β} {c : γ} (h₁ : Conv p₁ a) (h₂ : Conv p₂ b)
    (h : ∀ f, p₁ f = some a → p₂ f = some b → q (f + 1) = some c) : Conv q c := by
  obtain ⟨f₁, h₁⟩ := h₁
  obtain ⟨f₂, h₂⟩ := h₂
  refine ⟨f₁ + f₂ + 1, fun f hf => ?_⟩
  match f, hf with
  | f + 1, hf =>
    have hf := Nat.le_of_succ_le_succ hf
    exact h f (h₁ f (Nat.le_trans (Nat.le_add_right ..) hf)) (h₂ f (Nat.le_trans (Nat.le_add_left ..) hf))

theorem Conv.step₁ {α γ : Type} {p : Nat → Option α} {q : Nat → Option γ} {a : α} {c : γ} (h₁ : Conv p a)
    (h : ∀ f, p f = some a → q (f + 1) = some c) : Conv q c :=
  h₁.step₂ h₁ fun f e _ => h f e

theorem Conv.step₀ {γ : Type} {q : Nat → Option γ} {c : γ} (h : ∀ f, q (f + 1) = some c) : Conv q c :=
  ⟨1, fun | f + 1, _ => h f⟩

/-- The level-`k` function returns `R` on `ts`, given enough fuel; likewise its two loops. -/
abbrev Parses (k : Nat) (ts : List Tok) (R : Res) : Prop := Conv (fun f => parse f k ts) R
abbrev Loops (k : Nat) (left : Expr) (ts : List Tok) (R : Res) : Prop := Conv (fun f => loop f k left ts) R
abbrev PostLoops (e : Expr) (ts : List Tok) (R : Res) : Prop := Conv (fun f => postLoop f e ts) R

-- The parser's rules, one per branch of `parse` / `loop` / `postLoop`; the branch in which `postLoop` stops is
-- `postLoop_done`, stated with `NoCont` below.
section rules
variable {k : Nat} {ts r r' r'' : List Tok} {op : BOp} {e i l rt left : Expr} {R : Res}

theorem step_left (hk : kind k = .leftAssoc) (h1 : Parses (k + 1) ts (l, r)) (h2 : Loops k l r R) :
    Parses k ts R :=
  h1.step₂ h2 fun f e1 e2 => by simp only [parse, hk, e1, e2]

theorem step_loop_some (hm : matchBin k ts = some (op, r)) (h1 : Parses (k + 1) r (rt, r'))
    (h2 : Loops k (.bin op left rt) r' R) : Loops k left ts R :=
  h1.step₂ h2 fun f e1 e2 => by simp only [loop, hm, e1, e2]

theorem step_loop_none (hm : matchBin k ts = none) : Loops k left ts (left, ts) :=
  .step₀ fun f => by simp only [loop, hm]

theorem step_right_some (hk : kind k = .rightAssoc) (h1 : Parses (k + 1) ts (l, r))
    (hm : matchBin k r = some (op, r')) (h2 : Parses k r' (rt, r'')) : Parses k ts (.bin op l rt, r'') :=
  h1.step₂ h2 fun f e1 e2 => by simp only [parse, hk, e1, hm, e2]

theorem step_right_none (hk : kind k = .rightAssoc) (h1 : Parses (k + 1) ts (l, r)) (hm : matchBin k r = none) :
    Parses k ts (l, r) :=
  h1.step₁ fun f e1 => by simp only [parse, hk, e1, hm]

theorem step_non_some (hk : kind k = .nonAssoc) (h1 : Parses (k + 1) ts (l, r))
    (hm : matchBin k r = some (op, r')) (h2 : Parses (k + 1) r' (rt, r'')) : Parses k ts (.bin op l rt, r'') :=
  h1.step₂ h2 fun f e1 e2 => by simp only [parse, hk, e1, hm, e2]

theorem step_non_none (hk : kind k = .nonAssoc) (h1 : Parses (k + 1) ts (l, r)) (hm : matchBin k r = none) :
    Parses k ts (l, r) :=
  h1.step₁ fun f e1 => by simp only [parse, hk, e1, hm]

theorem step_pre_some {op : POp} (hk : kind k = .prefix) (hm : matchPre k ts = some (op, r))
    (h1 : Parses k r (e, r')) : Parses k ts (.pre op e, r') :=
  h1.step₁ fun f e1 => by simp only [parse, hk, hm, e1]

theorem step_pre_none (hk : kind k = .prefix) (hm : matchPre k ts = none) (h1 : Parses (k + 1) ts R) :
    Parses k ts R :=
  h1.step₁ fun f e1 => by simp only [parse, hk, hm, e1]

theorem step_post (hk : kind k = .postfix) (h1 : Parses (k + 1) ts (e, r)) (h2 : PostLoops e r R) :
    Parses k ts R :=
  h1.step₂ h2 fun f e1 e2 => by simp only [parse, hk, e1, e2]

theorem postLoop_quest (h : PostLoops (.try_ e) r R) : PostLoops e (.quest :: r) R :=
  h.step₁ fun f e1 => by simp only [postLoop, e1]

theorem postLoop_index (h1 : Parses 0 r (i, .rbrack :: r')) (h2 : PostLoops (.index e i) r' R) :
    PostLoops e (.lbrack :: r) R :=
  h1.step₂ h2 fun f e1 e2 => by simp only [postLoop, e1, e2]

theorem prim_atom (hk : kind k = .primary) (a : Nat) (r : List Tok) : Parses k (.atom a :: r) (.atom a, r) :=
  .step₀ fun f => by simp only [parse, hk]

theorem prim_paren (hk : kind k = .primary) (h1 : Parses 0 r (e, .rparen :: r')) :
    Parses k (.lparen :: r) (.paren e, r') :=
  h1.step₁ fun f e1 => by simp only [parse, hk, e1]

end rules

/-- The ladder level at which a token standing right after a complete operand continues the expression:
the level of the binary operator it opens (`not` opens `not in`), 9 for the postfix tokens `?` and `[`. -/
def contLevel : Tok → Option Nat
  | .kwOr => some 0
  | .kwAnd => some 1
  | .eqeq | .noteq | .lt | .gt | .lteq | .gteq | .kwIn | .kwNot | .kwIs => some 3
  | .dotdot | .dotdoteq => some 4
  | .plus | .minus => some 5
  | .star | .slashslash | .slash | .percent => some 6
  | .starstar => some 7
  | .quest | .lbrack => some 9
  | _ => none

theorem contLevel_bopToks (op : BOp) : ∃ t tl, bopToks op = t :: tl ∧ contLevel t = some (bopLevel op) := by
  cases op <;> exact ⟨_, _, rfl, rfl⟩

theorem matchBin_bop (op : BOp) (x : List Tok) : matchBin (bopLevel op) (bopToks op ++ x) = some (op, x) := by
  cases op <;> rfl

theorem matchPre_pop (op : POp) (x : List Tok) : matchPre (popLevel op) (popTok op :: x) = some (op, x) := by
  cases op <;> rfl

/-- `rest` does not start with a token that continues an expression at a level ≥ `k`. -/
def NoCont (k : Nat) (rest : List Tok) : Prop :=
  ∀ t r j, rest = t :: r → contLevel t = some j → j < k

theorem NoCont.mono {k k' : Nat} {rest : List Tok} (h : NoCont k rest) (hk : k ≤ k') : NoCont k' rest :=
  fun t r j hr hj => Nat.lt_of_lt_of_le (h t r j hr hj) hk

theorem matchBin_none {k : Nat} {rest : List Tok} (h : NoCont k rest) : matchBin k rest = none := by
  fun_cases matchBin k rest
  case case21 => rfl   -- the last line of `matchBin`, `| _, _ => none`
  -- the twenty branches that accept an operator: its first token has `contLevel = some k`
  all_goals exact absurd (h _ _ _ rfl rfl) (Nat.lt_irrefl _)

theorem postLoop_done {e : Expr} {rest : List Tok} (h : NoCont 9 rest) : PostLoops e rest (e, rest) :=
  .step₀ fun f => by
    unfold postLoop
    split
    · exact absurd (h _ _ _ rfl rfl) (Nat.lt_irrefl 9)
    · exact absurd (h _ _ _ rfl rfl) (Nat.lt_irrefl 9)
    · rfl

theorem noCont_ten (rest : List Tok) : NoCont 10 rest := fun t _ j _ => by
  fun_cases contLevel t <;> intro h <;> cases h <;> decide

theorem noCont_nil : NoCont 0 [] := fun _ _ _ h => nomatch h

/-- A token that opens neither a binary operator nor a postfix (`)`, `]`, …) ends the loops of every level. -/
theorem noCont_of_none {t : Tok} (h : contLevel t = none) (r : List Tok) : NoCont 0 (t :: r) :=
  fun _ _ j e hj => by cases e; rw [h] at hj; nomatch hj

/-- An operator of level `j` never continues an operand of a higher level: once the left operand has been
parsed at level `j+1`, the operator is left for level `j`. -/
theorem noCont_bop (op : BOp) (x : List Tok) : NoCont (bopLevel op + 1) (bopToks op ++ x) := by
  obtain ⟨t, tl, ht, hl⟩ := contLevel_bopToks op
  rw [ht]
  rintro _ _ j ⟨⟩ hj
  cases hl.symm.trans hj
  exact Nat.lt_succ_self _

/-- The first token of `fmt e` (`fmt_hd`). -/
def hd : Expr → Tok
  | .atom a => .atom a
  | .paren _ => .lparen
  | .pre op _ => popTok op
  | .bin _ l _ => hd l
  | .try_ e => hd e
  | .index e _ => hd e

theorem fmt_hd (e : Expr) : ∃ tl, fmt e = hd e :: tl := by
  induction e with
  | atom | paren | pre => exact ⟨_, rfl⟩
  | bin _ _ _ ih _ | try_ _ ih | index _ _ ih _ => obtain ⟨tl, h⟩ := ih; simp only [fmt, hd, h]; exact ⟨_, rfl⟩

/-- The level whose prefix operator a token opens. -/
def preLevel : Tok → Option Nat
  | .kwNot => some 2
  | .minus | .kwAwait => some 8
  | _ => none

theorem matchPre_none {k : Nat} {ts : List Tok} (h : ∀ t r, ts = t :: r → preLevel t ≠ some k) :
    matchPre k ts = none := by
  fun_cases matchPre k ts
  case case4 => rfl   -- the last line of `matchPre`, `| _, _ => none`
  -- the three branches that accept a prefix operator: its token has `preLevel = some k`
  all_goals exact absurd rfl (h _ _ rfl)

/-- A tree producible at level `k` starts with no prefix operator of a lower level. -/
theorem hd_level {k j : Nat} {e : Expr} (h : WL k e) : preLevel (hd e) = some j → k ≤ j := by
  induction h with
  | atom | paren => exact nofun
  | @pre op e _ _ => cases op <;> exact fun h => by cases h; exact Nat.le_refl _
  | up _ _ ih | binRight _ _ _ ih _ | binNon _ _ _ ih _ => exact fun h => Nat.le_of_succ_le (ih h)
  | binLeft _ _ _ ih _ | try_ _ ih | index _ _ ih _ => exact ih

theorem matchPre_none_of_level {k : Nat} {e : Expr} (h : WL (k + 1) e) (rest : List Tok) :
    matchPre k (fmt e ++ rest) = none := by
  obtain ⟨tl, htl⟩ := fmt_hd e
  refine matchPre_none fun t r hr ht => ?_
  rw [htl] at hr
  cases hr
  exact Nat.lt_irrefl k (hd_level h ht)

end Incan.Ladder
