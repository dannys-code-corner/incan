import IncanModel.Sem.Derive
/-
Linear class chains `C0 <- C1 <- … <- Cn` with distinct names (C01, C20).  Looking a level up finds its own
declaration, and its parent is the level before it (`findDecl_chain`), so a collector that walks up `parent` folds over
the levels from the root down (`chain_walk`): fields are appended in declaration order (`inherited_chain`), and a method
belongs to the last class that declares it (`methods_chain`).
-/
namespace Incan.Derive

/-- Parent of level `i` in a chain started under `parent`. -/
def parentOf {α : Type} (levels : List (String × α)) (parent : Option String) : Nat → Option String
  | 0 => parent
  | i + 1 => (levels[i]?).map (·.1)

theorem parentOf_cons_succ {α : Type} (l : String × α) (rest : List (String × α)) (parent : Option String) (j : Nat) :
    parentOf (l :: rest) parent (j + 1) = parentOf rest (some l.1) j := by
  cases j <;> rfl

theorem findDecl_chain {α : Type} (levels : List (String × α)) (parent : Option String)
    (hnd : (levels.map (·.1)).Nodup) (i : Nat) (hi : i < levels.length) :
    findDecl (chainDecls levels parent) (levels[i]).1
      = some ⟨(levels[i]).1, parentOf levels parent i, (levels[i]).2⟩ := by
  induction levels generalizing parent i with
  | nil => simp at hi
  | cons l rest ih =>
    rw [List.map_cons, List.nodup_cons] at hnd
    cases i with
    | zero => simp [chainDecls, findDecl, parentOf]
    | succ j =>
      have hj : j < rest.length := Nat.lt_of_succ_lt_succ hi
      -- the head's name is not the one looked up, which occurs in `rest`
      have hne : (l.1 == (rest[j]).1) = false :=
        beq_false_of_ne fun h => hnd.1 (h ▸ List.mem_map_of_mem (List.getElem_mem hj))
      rw [parentOf_cons_succ, List.getElem_cons_succ, ← ih (some l.1) hnd.2 j hj]
      simp only [chainDecls, findDecl, List.find?_cons, hne]

theorem chainDecls_length {α : Type} (levels : List (String × α)) (parent : Option String) :
    (chainDecls levels parent).length = levels.length := by
  induction levels generalizing parent with
  | nil => rfl
  | cons l rest ih => obtain ⟨n, fs⟩ := l; simp [chainDecls, ih]

/-- What `collect_inherited_fields` and `collect_inherited_methods` have in common.  `F fuel n` is the collector run on
class `n`, `e` its result where there is no parent, `G` the step that adds one class; `hF` says that on a class it finds,
`F` is `G` of the parent's result and that class.  Then `F` at level `i` is the fold of `G` over the levels `0 … i`. -/
theorem chain_walk {α β : Type} (levels : List (String × α)) (hnd : (levels.map (·.1)).Nodup)
    (F : Nat → String → β) (e : β) (G : β → String × α → β)
    (hF : ∀ fuel n c, findDecl (chainDecls levels none) n = some c →
      F (fuel + 1) n = G (c.parent.elim e (F fuel)) (c.name, c.own)) :
    ∀ (i : Nat) (hi : i < levels.length) (fuel : Nat), i < fuel → F fuel (levels[i]).1 = (levels.take (i + 1)).foldl G e
  | i, hi, f + 1, hf => by  -- `fuel = 0` is excluded by `i < fuel`
    rw [hF f _ _ (findDecl_chain levels none hnd i hi), List.take_succ_eq_append_getElem hi, List.foldl_append]
    cases i with
    | zero => rfl
    | succ j =>
      have hj : j < levels.length := Nat.lt_of_succ_lt hi
      rw [← chain_walk levels hnd F e G hF j hj f (Nat.lt_of_succ_lt_succ hf)]
      simp only [parentOf, List.getElem?_eq_getElem hj, Option.map_some, Option.elim_some]
      rfl

theorem inherited_chain (levels : List (String × Fields))
    (hnd : (levels.map (·.1)).Nodup) (i : Nat) (hi : i < levels.length) (fuel : Nat) (hf : i < fuel) :
    inheritedFields (chainDecls levels none) fuel (levels[i]).1 = (levels.take (i + 1)).flatMap (·.2) := by
  rw [List.flatMap_eq_foldl]
  exact chain_walk levels hnd (inheritedFields (chainDecls levels none)) [] (fun acc l => acc ++ l.2)
    (fun _ _ c h => by simp only [inheritedFields, h]; cases c.parent <;> rfl) i hi fuel hf

/-- One `retain`-then-`push`: the pushed method now belongs to `owner`, every other method keeps its owner. -/
theorem dispatch_retain_push (acc : List (String × String)) (x owner m : String) :
    dispatch (acc.filter (fun e => e.1 != x) ++ [(x, owner)]) m = if m = x then some owner else dispatch acc m := by
  unfold dispatch
  rw [List.find?_append, List.find?_filter]
  by_cases hx : m = x
  · subst hx
    rw [List.find?_eq_none.2 (by simp)]
    simp
  · have : (fun e : String × String => decide ((e.1 != x) = true ∧ (e.1 == m) = true)) = fun e => e.1 == m := by
      funext e; by_cases he : e.1 = m <;> simp [he, hx]
    rw [this]
    cases acc.find? (fun e => e.1 == m) <;> simp [hx, Ne.symm hx]

theorem dispatch_addOwn (acc : List (String × String)) (owner : String) (ms : List String) (m : String) :
    dispatch (addOwn acc owner ms) m = if m ∈ ms then some owner else dispatch acc m := by
  induction ms generalizing acc with
  | nil => simp [addOwn]
  | cons x ms ih =>
    rw [addOwn, ih, dispatch_retain_push]
    by_cases hm : m ∈ ms <;> by_cases hx : m = x <;> simp [hm, hx]

/-- Python's resolution for single inheritance, from the root-first list of (class, methods it declares): the last
class of the chain that declares `m`. -/
def specOwner (levels : List (String × List String)) (m : String) : Option String :=
  ((levels.filter fun l => l.2.contains m).getLast?).map (·.1)

theorem specOwner_snoc (levels : List (String × List String)) (l : String × List String) (m : String) :
    specOwner (levels ++ [l]) m = if m ∈ l.2 then some l.1 else specOwner levels m := by
  unfold specOwner
  rw [List.filter_append]
  by_cases h : m ∈ l.2 <;> simp [h]

theorem dispatch_foldl_addOwn (ls : List (String × List String)) (m : String) :
    dispatch (ls.foldl (fun acc c => addOwn acc c.1 c.2) []) m = specOwner ls m := by
  -- induction on the list read from its end, where `foldl` and `specOwner` both take their last step
  rw [← List.reverse_reverse ls]
  induction ls.reverse with
  | nil => rfl
  | cons c r ih => rw [List.reverse_cons, List.foldl_append, specOwner_snoc, ← ih]; exact dispatch_addOwn _ _ _ _

theorem methods_chain (levels : List (String × List String))
    (hnd : (levels.map (·.1)).Nodup) (i : Nat) (hi : i < levels.length) (fuel : Nat) (hf : i < fuel) (m : String) :
    dispatch (inheritedMethods (chainDecls levels none) fuel (levels[i]).1) m = specOwner (levels.take (i + 1)) m := by
  rw [chain_walk levels hnd (inheritedMethods (chainDecls levels none)) [] (fun acc l => addOwn acc l.1 l.2)
    (fun _ _ c h => by simp only [inheritedMethods, h]; cases c.parent <;> rfl) i hi fuel hf]
  exact dispatch_foldl_addOwn (levels.take (i + 1)) m

end Incan.Derive
