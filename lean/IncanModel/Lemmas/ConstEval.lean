import IncanModel.Sem.ConstEval
/-
What the pieces of the const evaluator do on the inputs that matter for C06: where `binConst` knows a value and where
it says bool, what a successful `cBound` means and how `rBound` follows it, the type of what `binRun` returns for
comparisons and for arithmetic, and that an index or a slice evaluates to a string.
-/
namespace Incan.ConstEval
open Incan.Policy

theorem cvStr_eq_some {v : Option CV} {s : List Char} : cvStr v = some s ↔ v = some (.str s) := by
  unfold cvStr; split <;> simp_all

theorem cvInt_eq_some {v : Option CV} {n : Int64} : cvInt v = some n ↔ v = some (.int n) := by
  unfold cvInt; split <;> simp_all

/-- Where `binConst` knows the value: concatenation and containment of strings, and the logical connectives. -/
theorem binConst_known {op : Op} {r : E} {lt rt t : Ty} {lv rv : Option CV} {cv : CV}
    (h : binConst op r lt lv rt rv = .ok (t, some cv)) :
    (∃ a b, lv = some (.str a) ∧ rv = some (.str b) ∧ (op = .add ∧ cv = .str (a ++ b) ∨
      (op = .in_ ∨ op = .notIn) ∧ cv = .bool (if op = .notIn then !isInfix a b else isInfix a b))) ∨
    (∃ a b, lv = some (.bool a) ∧ rv = some (.bool b) ∧ (op = .and_ ∨ op = .or_) ∧
      cv = .bool (if op = .and_ then a && b else a || b)) := by
  revert h
  fun_cases binConst op r lt lv rt rv <;> intro h
  -- closes the branches in which binConst fails or records no value; three stay, `‹_›` is the clause's condition
  all_goals try (cases h; done)
  all_goals injection h with h; injection h with _ h; split at h <;> cases h
  next a b ha hb => -- `+` on strings
    exact .inl ⟨a, b, cvStr_eq_some.1 ha, cvStr_eq_some.1 hb, .inl ⟨‹_ ∧ _›.1, rfl⟩⟩
  next a b ha hb => -- `in`, `not in`
    exact .inl ⟨a, b, cvStr_eq_some.1 ha, cvStr_eq_some.1 hb, .inr ⟨‹_ ∧ _›.1, rfl⟩⟩
  next a b => exact .inr ⟨a, b, rfl, rfl, ‹_ ∨ _›, rfl⟩ -- `and`, `or`

theorem binConst_bool {op : Op} {r : E} {lt rt t : Ty} {lv rv v : Option CV} (hn : op.toNum = none)
    (h : binConst op r lt lv rt rv = .ok (t, v)) : t = .bool := by
  revert h
  fun_cases binConst op r lt lv rt rv <;> intro h
  -- closes the branches in which binConst fails; seven stay, and `hn` rules out the two with another type
  all_goals try (cases h; done)
  next hc => cases hc.1; cases hn -- `+` on strings
  next => cases h; rfl -- comparison of strings
  next => cases h; rfl -- `in`, `not in`
  next => cases hn.symm.trans ‹op.toNum = some _› -- arithmetic
  all_goals cases h; rfl -- comparison of numbers, comparison at equal types, `and` / `or`

theorem cBound_ok {x : E} {c : CRes} {P : Bool} {V : Option Int64} (h : cBound x c = .ok (P, V)) :
    (x.isAbsent = true ∧ P = false ∧ V = none) ∨
    (x.isAbsent = false ∧ P = true ∧ ∃ v, c = .ok (.int, v) ∧ V = cvInt v) := by
  revert h
  fun_cases cBound x c <;> intro h <;> cases h
  next ha => exact .inl ⟨ha, rfl, rfl⟩
  next ha _ v ht => exact .inr ⟨by simpa using ha, rfl, v, by rw [Decidable.not_not.1 ht], rfl⟩

/-- A slice bound that is absent, or whose value the compiler knows, is that bound at run time. -/
theorem rBound_of_cBound {x : E} {c : CRes} {r : Except RErr RV} {P : Bool} {V : Option Int64}
    (hcr : ∀ t v, c = .ok (t, some v) → r = .ok v.toRV)
    (hc : cBound x c = .ok (P, V)) (hk : (!P || V.isSome) = true) : rBound x r = .ok V := by
  unfold rBound
  rcases cBound_ok hc with ⟨ha, _, rfl⟩ | ⟨ha, rfl, v, rfl, rfl⟩
  · rw [if_pos ha]
  · obtain ⟨n, hn⟩ := Option.isSome_iff_exists.1 hk
    cases cvInt_eq_some.1 hn
    rw [hcr _ _ rfl, if_neg (by simp [ha])]
    rfl

theorem binRun_cmp_ty {op : Op} {r : E} {a b res : RV} (hc : op.isCmp = true) (h : binRun op r a b = .ok res) :
    res.ty = .bool := by
  revert h
  fun_cases binRun op r a b <;> intro h
  -- closes the branches of the operators that are no comparison
  all_goals try (cases hc; done)
  all_goals cases h
  all_goals rfl

/-- Arithmetic on two numbers has the type `result_numeric_type` gives it.  This is the one place where two tables
(7 operators × 4 pairs of operand types) are compared entry by entry. -/
theorem binRun_num_ty {op : Op} {nop : NumOp} {r : E} {a b res : RV} {ta tb : NumTy}
    (hn : op.toNum = some nop) (ha : numTy a.ty = some ta) (hb : numTy b.ty = some tb)
    (h : binRun op r a b = .ok res) :
    res.ty = match resultNumericType nop ta tb (if op = .pow then some (powKind r b.ty) else none) with
      | .int => .int | .float => .float := by
  cases op <;> cases hn
  case add | sub | mul =>
    cases a <;> cases ha <;> cases b <;> cases hb <;> cases h <;> rfl
  case div | floorDiv | mod =>
    cases a <;> cases ha <;> cases b <;> cases hb <;> simp only [binRun] at h <;> split at h <;> cases h <;> rfl
  case pow =>
    cases a <;> cases ha <;> cases b <;> cases hb <;> simp only [binRun] at h
    case int.refl.int.refl =>
      simp only [RV.ty, resultNumericType]
      cases hk : powKind r .int <;> rw [hk] at h <;> cases h <;> rfl
    all_goals cases h; rfl

theorem runEval_index_ty {R : String → Option RV} {b i : E} {rv : RV} (h : runEval R (.index b i) = .ok rv) :
    rv.ty = .fstr := by
  rw [runEval] at h
  split at h
  · cases h
  split at h
  · cases h
  split at h
  · split at h <;> cases h
    rfl
  · cases h

theorem runEval_slice_ty {R : String → Option RV} {b st en sp : E} {rv : RV}
    (h : runEval R (.slice b st en sp) = .ok rv) : rv.ty = .fstr := by
  rw [runEval] at h
  split at h
  · cases h
  split at h
  · cases h
  split at h
  · cases h
  split at h
  · cases h
  split at h
  · split at h <;> cases h
    rfl
  · cases h

end Incan.ConstEval
