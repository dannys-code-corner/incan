import IncanModel.Kernel.Pos
/-
First the positions as counts: `posFrom` (the position after reading a prefix) and `lastLineFrom` (the text since the
last newline), with `posFrom_eq`.  Then the loops: three of the four loops of `Kernel/Pos` walk the character list with a
running byte index up to an offset; what they have read when they stop is `readBefore doc i off`, each is characterised
once in terms of that prefix (`o2pGo_eq`, `gliGo_eq`, `charsBefore_eq`), and `readBefore_boundary` says what the prefix is
when `off` is a character boundary.  The fourth, `p2oGo`, goes the other way and has its own pair (`p2oGo_cons`,
`p2oGo_boundary`).
-/
namespace Incan.Pos

theorem utf8Len_append (a b : List Char) : utf8Len (a ++ b) = utf8Len a + utf8Len b := by
  induction a with
  | nil => simp [utf8Len]
  | cons c cs ih => simp [utf8Len, ih]; omega

theorem newline_size : ('\n' : Char).utf8Size = 1 := by decide

/-- Position reached after reading exactly the characters of `pre` from `p`. -/
def posFrom (p : Position) (pre : List Char) : Position := pre.foldl step p
def posOf (pre : List Char) : Position := posFrom (0, 0) pre

theorem posFrom_cons (p : Position) (c : Char) (cs : List Char) : posFrom p (c :: cs) = posFrom (step p c) cs := rfl

theorem posFrom_append (p : Position) (a b : List Char) : posFrom p (a ++ b) = posFrom (posFrom p a) b :=
  List.foldl_append

theorem step_lt (p : Position) (c : Char) : Position.lt p (step p c) := by
  unfold step Position.lt; split <;> simp

theorem Position.le_refl (p : Position) : Position.le p p := Or.inr ⟨rfl, Nat.le_refl _⟩
theorem Position.le_of_lt {a b : Position} (h : Position.lt a b) : Position.le a b :=
  h.imp id fun h => ⟨h.1, Nat.le_of_lt h.2⟩
theorem Position.lt_of_lt_of_le {a b c : Position} (h1 : Position.lt a b) (h2 : Position.le b c) : Position.lt a c := by
  rcases h1 with h1 | ⟨e1, h1⟩ <;> rcases h2 with h2 | ⟨e2, h2⟩
  · exact Or.inl (Nat.lt_trans h1 h2)
  · exact Or.inl (e2 ▸ h1)
  · exact Or.inl (e1 ▸ h2)
  · exact Or.inr ⟨e1.trans e2, Nat.lt_of_lt_of_le h1 h2⟩
theorem Position.ne_of_lt {a b : Position} (h : Position.lt a b) : a ≠ b := by
  rintro rfl
  exact h.elim (Nat.lt_irrefl _) fun h => Nat.lt_irrefl _ h.2

-- along the fold: `p` is below the position reached, from `step p c` on
theorem posFrom_lt (p : Position) (c : Char) (cs : List Char) : Position.lt p (posFrom p (c :: cs)) :=
  List.foldlRecOn cs step (step_lt p c) fun q hq d _ => Position.lt_of_lt_of_le hq (Position.le_of_lt (step_lt q d))

theorem posFrom_le (p : Position) (pre : List Char) : Position.le p (posFrom p pre) := by
  cases pre with
  | nil => exact Position.le_refl p
  | cons c cs => exact Position.le_of_lt (posFrom_lt p c cs)

theorem posFrom_prefix_le (p : Position) {a b : List Char} (h : a <+: b) :
    Position.le (posFrom p a) (posFrom p b) := by
  obtain ⟨t, rfl⟩ := h
  rw [posFrom_append]; exact posFrom_le _ t

/-- The text after the last newline of `pre` (all of `pre` if it has none), computed left to right. -/
def lastLineFrom (acc : List Char) (pre : List Char) : List Char :=
  pre.foldl (fun acc c => if c = '\n' then [] else acc ++ [c]) acc
def lastLine (pre : List Char) : List Char := lastLineFrom [] pre

theorem lastLineFrom_cons (acc : List Char) (c : Char) (cs : List Char) :
    lastLineFrom acc (c :: cs) = lastLineFrom (if c = '\n' then [] else acc ++ [c]) cs := rfl

theorem lastLineFrom_spec (acc pre : List Char) (hacc : '\n' ∉ acc) :
    '\n' ∉ lastLineFrom acc pre ∧
    ((∃ before, pre = before ++ '\n' :: lastLineFrom acc pre) ∨ lastLineFrom acc pre = acc ++ pre) := by
  induction pre generalizing acc with
  | nil => simp [lastLineFrom, hacc]
  | cons c cs ih =>
    rw [lastLineFrom_cons]
    by_cases hc : c = '\n'
    · subst hc
      rw [if_pos rfl]
      obtain ⟨h1, h2⟩ := ih [] (by simp)
      refine ⟨h1, Or.inl ?_⟩
      rcases h2 with ⟨b, hb⟩ | h
      · exact ⟨'\n' :: b, by rw [List.cons_append, ← hb]⟩
      · exact ⟨[], by simp [h]⟩
    · rw [if_neg hc]
      obtain ⟨h1, h2⟩ := ih (acc ++ [c]) (by simpa [hacc] using Ne.symm hc)
      refine ⟨h1, ?_⟩
      rcases h2 with ⟨b, hb⟩ | h
      · exact Or.inl ⟨c :: b, by rw [List.cons_append, ← hb]⟩
      · exact Or.inr (by simp [h])

/-- `lastLine pre` really is "everything after the last newline". -/
theorem lastLine_spec (pre : List Char) :
    '\n' ∉ lastLine pre ∧ ((∃ before, pre = before ++ '\n' :: lastLine pre) ∨ lastLine pre = pre) := by
  simpa [lastLine] using lastLineFrom_spec [] pre (by simp)

/-- `offset_to_position` counts: newlines read so far, and characters since the last of them. -/
theorem posFrom_eq (l : Nat) (acc pre : List Char) :
    posFrom (l, acc.length) pre = (l + pre.count '\n', (lastLineFrom acc pre).length) := by
  induction pre generalizing l acc with
  | nil => rfl
  | cons c cs ih =>
    rw [posFrom_cons, lastLineFrom_cons, step]
    by_cases hc : c = '\n'
    · subst hc
      rw [if_pos rfl, if_pos rfl, List.count_cons_self, ← Nat.add_assoc, Nat.add_right_comm]
      exact ih (l + 1) []
    · rw [if_neg hc, if_neg hc, List.count_cons_of_ne hc]
      simpa using ih l (acc ++ [c])

theorem posOf_eq (pre : List Char) : posOf pre = (pre.count '\n', (lastLine pre).length) :=
  (posFrom_eq 0 [] pre).trans (by rw [Nat.zero_add]; rfl)

/-- The characters whose first byte lies strictly before `off` (what a loop over `char_indices` gets to read before
it breaks at `i >= off`). -/
def readBefore : List Char → Nat → Nat → List Char
  | [], _, _ => []
  | c :: cs, i, off => if i ≥ off then [] else c :: readBefore cs (i + c.utf8Size) off

theorem readBefore_nil_iff (l : List Char) (i off : Nat) : readBefore l i off = [] ↔ l = [] ∨ off ≤ i := by
  cases l <;> simp [readBefore]

theorem readBefore_cons_iff (c : Char) (l cs : List Char) (i off : Nat) :
    readBefore (c :: l) i off = c :: cs ↔ i < off ∧ readBefore l (i + c.utf8Size) off = cs := by
  by_cases h : i ≥ off <;> simp [readBefore, h] <;> omega

theorem readBefore_boundary (pre post : List Char) (i off : Nat) (h : off = i + utf8Len pre) :
    readBefore (pre ++ post) i off = pre := by
  subst h
  induction pre generalizing i with
  | nil => exact (readBefore_nil_iff ..).2 (Or.inr (Nat.le_refl _))
  | cons c cs ih =>
    rw [List.cons_append, readBefore_cons_iff, utf8Len, ← Nat.add_assoc]
    exact ⟨by have := c.utf8Size_pos; omega, ih _⟩

theorem readBefore_prefix (doc : List Char) (i off : Nat) : readBefore doc i off <+: doc := by
  induction doc generalizing i with
  | nil => exact List.nil_prefix
  | cons c cs ih =>
    unfold readBefore
    split
    · exact List.nil_prefix
    · exact List.cons_prefix_cons.2 ⟨rfl, ih _⟩

theorem exists_read (doc : List Char) (i off : Nat) :
    ∃ pre post, doc = pre ++ post ∧ readBefore (pre ++ post) i off = pre := by
  obtain ⟨t, ht⟩ := readBefore_prefix doc i off
  exact ⟨_, t, ht.symm, by rw [ht]⟩

theorem readBefore_mono (doc : List Char) (i o1 o2 : Nat) (h : o1 ≤ o2) :
    readBefore doc i o1 <+: readBefore doc i o2 := by
  induction doc generalizing i with
  | nil => exact List.nil_prefix
  | cons c cs ih =>
    unfold readBefore
    by_cases h1 : i ≥ o1
    · rw [if_pos h1]; exact List.nil_prefix
    · rw [if_neg h1, if_neg (by omega)]
      exact List.cons_prefix_cons.2 ⟨rfl, ih _⟩

theorem o2pGo_eq (doc : List Char) (i off : Nat) (p : Position) :
    o2pGo doc i off p = posFrom p (readBefore doc i off) := by
  induction doc generalizing i p with
  | nil => rfl
  | cons c cs ih =>
    unfold o2pGo readBefore
    split
    · rfl
    · exact ih ..

theorem offsetToPosition_eq (doc : List Char) (o : Nat) :
    offsetToPosition doc o = posOf (readBefore doc 0 (min o (utf8Len doc))) := o2pGo_eq ..

theorem offsetToPosition_boundary (pre post : List Char) :
    offsetToPosition (pre ++ post) (utf8Len pre) = posOf pre := by
  rw [offsetToPosition_eq, utf8Len_append, Nat.min_eq_left (Nat.le_add_right ..),
    readBefore_boundary pre post 0 _ (Nat.zero_add _).symm]

theorem offsetToPosition_mono (doc : List Char) (o1 o2 : Nat) (h : o1 ≤ o2) :
    Position.le (offsetToPosition doc o1) (offsetToPosition doc o2) := by
  rw [offsetToPosition_eq, offsetToPosition_eq]
  exact posFrom_prefix_le _ (readBefore_mono _ _ _ _ (by omega))

theorem offsetToPosition_le_end (doc : List Char) (o : Nat) :
    Position.le (offsetToPosition doc o) (offsetToPosition doc (utf8Len doc)) := by
  rw [offsetToPosition_eq, offsetToPosition_eq, Nat.min_self]
  exact posFrom_prefix_le _ (readBefore_mono _ _ _ _ (Nat.min_le_right ..))

/-- While the position sought lies at or beyond the next one, the loop of `position_to_offset` moves on like that of
`offset_to_position`. -/
theorem p2oGo_cons (c : Char) (cs : List Char) (i off : Nat) (p pos : Position) (h : Position.le (step p c) pos) :
    p2oGo (c :: cs) i p.1 p.2 off pos = p2oGo cs (i + c.utf8Size) (step p c).1 (step p c).2 (i + c.utf8Size) pos := by
  unfold Position.le step at h
  rw [p2oGo]
  unfold step
  split at h <;> simp only at h
  · rw [if_neg (by omega), if_pos ‹_›, if_neg (by omega), if_pos ‹_›]
  · rw [if_neg (by omega), if_neg ‹_›, if_neg ‹_›]

/-- Inverse direction: reading `pre` and then asking for the position reached gives back its length.  (`hoff`: with
nothing read and nothing left the loop answers `offset`, not `i`.) -/
theorem p2oGo_boundary (pre post : List Char) (i offset : Nat) (p : Position)
    (hoff : pre = [] → post = [] → offset = i) :
    p2oGo (pre ++ post) i p.1 p.2 offset (posFrom p pre) = some (i + utf8Len pre) := by
  induction pre generalizing i p offset with
  | nil =>
    cases post with
    | nil => rw [hoff rfl rfl]; exact if_pos ⟨rfl, rfl⟩
    | cons c cs => exact if_pos ⟨rfl, rfl⟩
  | cons c cs ih =>
    rw [List.cons_append, posFrom_cons, p2oGo_cons _ _ _ _ _ _ (posFrom_le (step p c) cs), ih _ _ _ (fun _ _ => rfl),
      utf8Len, Nat.add_assoc]

/-- Loop invariant of `get_line_info`, for every raw offset: when `pre` is what the loop reads, `ln` has counted the
newlines of `pre`, `rest` is the line begun in `pre` followed by what is unread, and `line_start` is the byte offset at
which that line begins (`'\n'` is one byte, so it never exceeds `off`).  `acc` is the part of the current line read
before this call: it starts at `ls` and ends at `i` (`hls`). -/
theorem gliGo_eq (pre post acc : List Char) (i off ln ls : Nat) (hls : ls + utf8Len acc = i)
    (hr : readBefore (pre ++ post) i off = pre) :
    ∃ ls', gliGo (pre ++ post) i off ln ls (acc ++ (pre ++ post))
        = (ln + pre.count '\n', ls', lastLineFrom acc pre ++ post) ∧
      ls' + utf8Len (lastLineFrom acc pre) = i + utf8Len pre ∧ (ls ≤ off → ls' ≤ off) := by
  induction pre generalizing acc i ln ls with
  | nil =>
    refine ⟨ls, ?_, hls, id⟩
    rw [List.nil_append, readBefore_nil_iff] at hr
    rcases hr with rfl | hr
    · rfl
    · cases post with
      | nil => rfl
      | cons c cs => rw [List.nil_append, gliGo, if_pos hr]; rfl
  | cons c cs ih =>
    rw [List.cons_append, readBefore_cons_iff] at hr
    rw [List.cons_append, gliGo, if_neg (Nat.not_le.2 hr.1), lastLineFrom_cons, utf8Len, ← Nat.add_assoc]
    by_cases hc : c = '\n'
    · subst hc
      obtain ⟨ls', h1, h2, h3⟩ := ih [] _ (ln + 1) (i + 1) (by rw [newline_size]; rfl) hr.2
      rw [if_pos rfl, if_pos rfl, List.count_cons_self]
      exact ⟨ls', h1.trans (by rw [Nat.add_assoc, Nat.add_comm 1]), h2, fun _ => h3 hr.1⟩
    · obtain ⟨ls', h1, h2, h3⟩ := ih (acc ++ [c]) _ ln ls (by rw [utf8Len_append, ← Nat.add_assoc, hls]; rfl) hr.2
      rw [if_neg hc, if_neg hc, List.count_cons_of_ne hc]
      rw [List.append_assoc, List.singleton_append] at h1
      exact ⟨ls', h1, h2, h3⟩

theorem gliGo_start (pre post : List Char) (off : Nat) (hr : readBefore (pre ++ post) 0 off = pre) :
    ∃ ls', gliGo (pre ++ post) 0 off 1 0 (pre ++ post) = (1 + pre.count '\n', ls', lastLine pre ++ post) ∧
      ls' + utf8Len (lastLine pre) = utf8Len pre ∧ ls' ≤ off := by
  obtain ⟨ls', h, h2, h3⟩ := gliGo_eq pre post [] 0 off 1 0 rfl hr
  rw [Nat.zero_add] at h2
  exact ⟨ls', h, h2, h3 (Nat.zero_le _)⟩

theorem charsBefore_eq (l : List Char) (pos off : Nat) : charsBefore l pos off = (readBefore l pos off).length := by
  induction l generalizing pos with
  | nil => rfl
  | cons c cs ih =>
    unfold charsBefore readBefore
    by_cases h : pos < off
    · rw [if_pos h, if_neg (Nat.not_le.2 h), ih, List.length_cons, Nat.add_comm]
    · rw [if_neg h, if_pos (Nat.not_lt.1 h)]; rfl

end Incan.Pos
