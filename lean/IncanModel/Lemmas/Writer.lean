import IncanModel.Tool.Writer
/- Lemmas about the output writer model (Tool/Writer): how `noTrailing` / `endsBlank` behave under append, and the
invariant `Inv` that every operation keeps as long as the client keeps `clientOk`. -/
namespace Incan.Writer

theorem endsBlank_append_nonempty (t s : List Char) (hs : s ≠ []) : endsBlank (t ++ s) = endsBlank s := by
  induction t with
  | nil => rfl
  | cons a rest ih =>
    cases rest with
    | nil =>
      cases s with
      | nil => exact absurd rfl hs
      | cons b s' => rfl
    | cons b rest' =>
      simpa [endsBlank] using ih

theorem noTrailing_snoc (t : List Char) (c : Char) :
    noTrailing (t ++ [c]) = (noTrailing t && !(endsBlank t && isNl c)) := by
  induction t with
  | nil => rfl
  | cons a rest ih =>
    cases rest with
    | nil => simp [noTrailing, endsBlank]
    | cons b rest' =>
      simp only [List.cons_append, noTrailing, endsBlank] at ih ⊢
      rw [ih, Bool.and_assoc]

theorem noTrailing_append_piece (t s : List Char) (hs : s.all (fun c => !isNl c) = true) :
    noTrailing (t ++ s) = noTrailing t := by
  induction s generalizing t with
  | nil => rw [List.append_nil]
  | cons a s ih =>
    simp only [List.all_cons, Bool.and_eq_true, Bool.not_eq_true'] at hs
    rw [List.append_cons, ih _ hs.2, noTrailing_snoc, hs.1, Bool.and_false, Bool.not_false, Bool.and_true]

theorem nl_not_blank (c : Char) (h : isNl c = true) : isBlankChar c = false := by
  have : c = '\n' := by simpa [isNl] using h
  subst this; decide

theorem nl_not_tab (c : Char) (h : isNl c = true) : isTab c = false :=
  (Bool.or_eq_false_iff.1 (nl_not_blank c h)).2   -- `isBlankChar c` is `c == ' ' || isTab c`

/-- The invariant the writer keeps on its text while the client keeps its side. -/
structure Inv (t : List Char) (pend : Bool) : Prop where
  trailing : noTrailing t = true
  tabs : t.all (fun c => !isTab c) = true
  blank : endsBlank t = true → pend = true

theorem Inv.not_blank {t : List Char} (h : Inv t false) : endsBlank t = false :=
  Bool.eq_false_iff.2 fun hb => nomatch h.blank hb

theorem inv_newline (t : List Char) (h : Inv t false) : Inv (t ++ ['\n']) false := by
  refine ⟨?_, ?_, ?_⟩
  · rw [noTrailing_snoc, h.trailing, h.not_blank]; rfl
  · rw [List.all_append, h.tabs]; decide
  · intro hh
    rw [endsBlank_append_nonempty _ _ (List.cons_ne_nil _ _)] at hh
    exact absurd hh (by decide)

theorem inv_blank (n : Nat) (w : W) (h : Inv w.out false) : Inv (blank n w).out false := by
  induction n generalizing w with
  | zero => exact h
  | succ k ih => exact ih _ (inv_newline w.out h)

theorem all_split (s : List Char) (h : s.all (fun c => !isTab c && !isNl c) = true) :
    s.all (fun c => !isTab c) = true ∧ s.all (fun c => !isNl c) = true := by
  simp only [List.all_eq_true, Bool.and_eq_true] at h ⊢
  exact ⟨fun c hc => (h c hc).1, fun c hc => (h c hc).2⟩

theorem inv_append_piece (t s : List Char) (pend : Bool) (h : Inv t pend)
    (hs : s.all (fun c => !isTab c && !isNl c) = true) :
    Inv (t ++ s) (if s.isEmpty then pend else endsBlank s) := by
  cases s with
  | nil => simpa using h
  | cons a rest =>
    obtain ⟨ht, hn⟩ := all_split _ hs
    refine ⟨?_, ?_, ?_⟩
    · rw [noTrailing_append_piece _ _ hn]; exact h.trailing
    · rw [List.all_append, h.tabs, ht]; rfl
    · intro hh
      rwa [endsBlank_append_nonempty _ _ (List.cons_ne_nil _ _)] at hh

theorem inv_write (w : W) (s : List Char) (pend : Bool) (h : Inv w.out pend)
    (hs : s.all (fun c => !isTab c && !isNl c) = true) :
    Inv (write w s).out (if s.isEmpty then pend else endsBlank s) := by
  unfold write
  cases hse : s.isEmpty with
  | true => exact h
  | false =>
    obtain ⟨p, hp⟩ : ∃ p, Inv (writeIndent w).out p := by
      unfold writeIndent
      split
      · exact ⟨_, inv_append_piece w.out _ pend h (List.all_replicate.trans (ite_self _))⟩
      · exact ⟨pend, h⟩
    have := inv_append_piece _ s p hp hs
    rw [hse] at this
    exact this

/-- One operation keeps the invariant, and leaves the client owing what `clientOk` says it owes for the rest. -/
theorem inv_step (w : W) (op : Op) (rest : List Op) (pend : Bool) (h : Inv w.out pend)
    (hc : clientOk pend (op :: rest) = true) : ∃ p, Inv (step w op).out p ∧ clientOk p rest = true := by
  cases op with
  | write s =>
    simp only [clientOk, Bool.and_eq_true] at hc
    exact ⟨_, inv_write w s pend h hc.1, hc.2⟩
  | newline =>
    simp only [clientOk, Bool.and_eq_true, Bool.not_eq_true'] at hc
    obtain ⟨rfl, hc⟩ := hc
    exact ⟨false, inv_newline w.out h, hc⟩
  | indent | dedent => exact ⟨pend, h, hc⟩
  | endLine =>
    simp only [clientOk, Bool.and_eq_true, Bool.not_eq_true'] at hc
    obtain ⟨rfl, hc⟩ := hc
    refine ⟨false, ?_, hc⟩
    show Inv (if w.atStart then w else newline w).out false
    split
    · exact h
    · exact inv_newline w.out h
  | blankLines n =>
    cases n with
    -- `clientOk` computes on a numeral: for 0 `hc` is `clientOk pend rest = true` as it stands, for `k + 1` it is
    -- `(!pend && clientOk false rest) = true`
    | zero => exact ⟨pend, h, hc⟩
    | succ k =>
      cases pend with
      | true => cases hc
      | false => exact ⟨false, inv_blank (k + 1) w h, hc⟩

theorem inv_run (ops : List Op) (w : W) (pend : Bool) (h : Inv w.out pend) (hc : clientOk pend ops = true) :
    Inv (run w ops).out false := by
  induction ops generalizing w pend with
  | nil =>
    obtain rfl : pend = false := by simpa [clientOk] using hc
    exact h
  | cons op rest ih =>
    obtain ⟨p, hp, hc'⟩ := inv_step w op rest pend h hc
    exact ih _ p hp hc'

end Incan.Writer
