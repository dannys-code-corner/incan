import IncanModel.Syntax.Literals
/-
What the literal scanners of Syntax/Literals do on a closing quote, on a plain character and on one written escape
(`scanStr_*`, `scanBytes_*`, the hex-digit table), and the generic round trip `scan_flatMap`: a scanner that reads
back one written element at a time reads back the whole written literal.
-/
namespace Incan.Literals

/-- A scanner that reads back one written element at a time reads back the whole written literal, up to the
closing quote `q`. -/
theorem scan_flatMap {α β : Type} {esc : α → List β} {scan : List β → Option (List α × List β)}
    {push : α → Option (List α × List β) → Option (List α × List β)} {q : β}
    (hpush : ∀ x v r, push x (some (v, r)) = some (x :: v, r))
    (hq : ∀ tail, scan (q :: tail) = some ([], tail))
    (xs : List α) (hesc : ∀ x ∈ xs, ∀ rest, scan (esc x ++ rest) = push x (scan rest)) (tail : List β) :
    scan (xs.flatMap esc ++ q :: tail) = some (xs, tail) := by
  induction xs with
  | nil => exact hq tail
  | cons x xs ih =>
    rw [List.flatMap_cons, List.append_assoc, hesc x (List.mem_cons_self ..),
      ih fun y hy => hesc y (List.mem_cons_of_mem _ hy), hpush]

-- Lean's own equations for `scanStr` / `scanBytes` split on the nested `match rest`; these say what the
-- scanners do on a text `c :: rest` with `rest` a variable.
theorem scanStr_quote (rest : List Char) : scanStr ('"' :: rest) = some ([], rest) := by
  rw [scanStr.eq_def]; rfl

theorem scanStr_plain {c : Char} (h1 : c ≠ '"') (h2 : c ≠ '\n') (h3 : c ≠ '\\') (rest : List Char) :
    scanStr (c :: rest) = pushC c (scanStr rest) := by
  rw [scanStr.eq_def]; simp only [h1, h2, h3, if_false]

theorem scanStr_esc (c : Char) (rest : List Char) : scanStr (escChar c ++ rest) = pushC c (scanStr rest) := by
  fun_cases escChar c
  -- the last branch of `escChar`: `c` is none of '\n' (`hnl`), '\r', '\t', '\\' (`hbs`), '"' (`hq`)
  case case6 hnl _ _ hbs hq => exact scanStr_plain hq hnl hbs rest
  -- the five escaped characters: the scanner's escape branch computes
  all_goals subst c; rfl

theorem lexStr_quote {x : List Char} (h : ∀ r, x ≠ '"' :: '"' :: r) : lexStr ('"' :: x) = scanStr x := by
  unfold lexStr
  split
  · next heq => cases heq; exact absurd rfl (h _)
  · next heq => cases heq; rfl
  · next h2 => exact absurd rfl (h2 _)

-- Code points in the bytes lemmas: 34 `"`, 92 `\`, 120 `x`, 110 / 116 / 114 `n` `t` `r`, 48 `0`, 10 line feed, 43 `+`.
theorem scanBytes_quote (rest : List Nat) : scanBytes (34 :: rest) = some ([], rest) := by
  rw [scanBytes.eq_def]; rfl

theorem scanBytes_plain {c : Nat} (h1 : c ≠ 34) (h2 : c ≠ 10) (h3 : c ≠ 92) (h4 : c < 128) (rest : List Nat) :
    scanBytes (c :: rest) = pushB c (scanBytes rest) := by
  rw [scanBytes.eq_def]; simp only [h1, h2, h3, h4, if_false, if_true]

theorem scanBytes_hex (h l : Nat) (rest : List Nat) :
    scanBytes (92 :: 120 :: h :: l :: rest) = (hexPair h l).bind fun b => pushB b (scanBytes rest) := by
  rw [scanBytes.eq_def]
  simp only [Nat.reduceEqDiff, if_false, if_true]
  cases hexPair h l <;> rfl

/-- The sixteen digits the formatter writes: none is the `+` that `hexPair` lets through, each reads back. -/
theorem hexVal_hexDigit : ∀ d < 16, hexDigit d ≠ 43 ∧ hexVal (hexDigit d) = some d := by decide

theorem hexPair_hexDigit (b : Nat) (hb : b < 256) : hexPair (hexDigit (b / 16)) (hexDigit (b % 16)) = some b := by
  have hh := hexVal_hexDigit (b / 16) (Nat.div_lt_of_lt_mul hb)
  have hl := hexVal_hexDigit (b % 16) (Nat.mod_lt b (by decide))
  rw [hexPair, if_neg hh.1, hh.2, hl.2]
  exact congrArg some (Nat.div_add_mod b 16)

theorem scanBytes_esc (b : Nat) (hb : b < 256) (rest : List Nat) :
    scanBytes (escByte b ++ rest) = pushB b (scanBytes rest) := by
  fun_cases escByte b with
  | case1 h => rcases h with rfl | rfl <;> (rw [scanBytes.eq_def]; rfl)
  | case2 h1 h2 =>   -- `h1 : ¬(b = 34 ∨ b = 92)`, `h2 : 32 ≤ b ∧ b < 127`
    exact scanBytes_plain (not_or.1 h1).1 (Nat.ne_of_gt (Nat.lt_of_lt_of_le (by decide) h2.1)) (not_or.1 h1).2
      (Nat.lt_succ_of_lt h2.2) rest
  | case3 => exact (scanBytes_hex ..).trans (by rw [hexPair_hexDigit b hb]; rfl)

end Incan.Literals
