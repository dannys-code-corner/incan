import IncanModel.Sem.Derive
/-
What the definitions of Sem/Derive do, for the theorems of Props/C20 (and the string order of Props/C01).  Three ideas: a value that has a type is of that
type's shape (the inversions `hasTy_int` … `fieldsHaveTy_cons`, which the type-directed proofs open with); `cmpInt` is
`compare` and `cmpStr` is core's lexicographic `compare` of the code points, so the leaf orders have core's laws, and every
step of `cmpList`, `cmpFields` is `Ordering.then` of the head comparison and the rest, so theirs come from the laws of
`then`; the steps that build a derive list are described by what they have as members.
-/
namespace Incan.Derive

/-! ### Typed values, by type -/

theorem hasTy_int {v : Val} (h : hasTy v .int = true) : ∃ n, v = .int n := by
  cases v with | int n => exact ⟨n, rfl⟩ | _ => cases h
theorem hasTy_bool {v : Val} (h : hasTy v .bool = true) : ∃ b, v = .bool b := by
  cases v with | bool b => exact ⟨b, rfl⟩ | _ => cases h
theorem hasTy_str {v : Val} (h : hasTy v .str = true) : ∃ s, v = .str s := by
  cases v with | str s => exact ⟨s, rfl⟩ | _ => cases h
theorem hasTy_float {v : Val} (h : hasTy v .float = true) : ∃ bits, v = .float bits := by
  cases v with | float bits => exact ⟨bits, rfl⟩ | _ => cases h
theorem hasTy_option {v : Val} {u : Ty} (h : hasTy v (.option u) = true) :
    v = .none_ ∨ ∃ w, v = .some_ w ∧ hasTy w u = true := by
  cases v with | none_ => exact .inl rfl | some_ w => exact .inr ⟨w, rfl, h⟩ | _ => cases h
theorem hasTy_list {v : Val} {u : Ty} (h : hasTy v (.list u) = true) : ∃ xs, v = .list xs ∧ allHaveTy xs u = true := by
  cases v with | list xs => exact ⟨xs, rfl, h⟩ | _ => cases h
theorem hasTy_dict {v : Val} {u : Ty} (h : hasTy v (.dict u) = true) : ∃ xs, v = .dict xs ∧ dictHasTy xs u = true := by
  cases v with | dict xs => exact ⟨xs, rfl, h⟩ | _ => cases h
theorem hasTy_struct {v : Val} {fts : List (List Char × Ty)} (h : hasTy v (.struct fts) = true) :
    ∃ fs, v = .struct fs ∧ fieldsHaveTy fs fts = true := by
  cases v with | struct fs => exact ⟨fs, rfl, h⟩ | _ => cases h

theorem fieldsHaveTy_nil {a : List (List Char × Val)} (h : fieldsHaveTy a [] = true) : a = [] := by
  cases a with | nil => rfl | cons _ _ => cases h
theorem fieldsHaveTy_cons {a : List (List Char × Val)} {g : List Char} {t : Ty} {r : List (List Char × Ty)}
    (h : fieldsHaveTy a ((g, t) :: r) = true) : ∃ x xs, a = (g, x) :: xs ∧ hasTy x t = true ∧ fieldsHaveTy xs r = true := by
  rcases a with _ | ⟨⟨k, x⟩, xs⟩
  · cases h
  · simp only [fieldsHaveTy, Bool.and_eq_true, beq_iff_eq] at h
    obtain ⟨⟨rfl, hx⟩, hxs⟩ := h
    exact ⟨x, xs, rfl, hx, hxs⟩

/-! ### JSON round trip -/

theorem encode_ne_null (v : Val) (t : Ty) (h : hasTy v t = true) (hopt : ∀ u, t ≠ .option u) : encode v ≠ .null := by
  cases v with
  | none_ | some_ _ =>
    -- the type of these two can only be an option: at the other types `h` is false
    cases t <;> try (cases h; done)
    all_goals exact absurd rfl (hopt _)
  | _ => nofun

theorem nameIn_of_mem {f : List Char} {v : Val} {fs : List (List Char × Val)} {fts : List (List Char × Ty)}
    (hty : fieldsHaveTy fs fts = true) (hmem : (f, v) ∈ fs) : nameIn f fts = true := by
  induction fts generalizing fs with
  | nil => rw [fieldsHaveTy_nil hty] at hmem; cases hmem
  | cons q qs ih =>
    obtain ⟨w, ps, rfl, _, hrest⟩ := fieldsHaveTy_cons hty
    rw [nameIn, Bool.or_eq_true, beq_iff_eq]
    rcases List.mem_cons.1 hmem with h | h
    · exact .inl (congrArg Prod.fst h)
    · exact .inr (ih hrest h)

theorem lookup_encodeFields {f : List Char} {v : Val} {fs : List (List Char × Val)} {fts : List (List Char × Ty)}
    (hty : fieldsHaveTy fs fts = true) (hd : distinctNames fts = true) (hmem : (f, v) ∈ fs) :
    lookup f (encodeFields fs) = some (encode v) := by
  induction fts generalizing fs with
  | nil => rw [fieldsHaveTy_nil hty] at hmem; cases hmem
  | cons q qs ih =>
    obtain ⟨w, ps, rfl, _, hrest⟩ := fieldsHaveTy_cons hty
    rw [distinctNames, Bool.and_eq_true] at hd
    rw [encodeFields, lookup]
    rcases List.mem_cons.1 hmem with h | h
    · cases h; rw [if_pos rfl]
    · -- a later field: its name is among the remaining declared names, so it is not this one
      have hne : q.1 ≠ f := fun e => by rw [e, nameIn_of_mem hrest h] at hd; exact absurd hd.1 (by simp)
      rw [if_neg hne]
      exact ih hrest hd.2 h

theorem decode_option_of_ne_null {j : J} (t : Ty) (h : j ≠ .null) : decode (.option t) j = (decode t j).map .some_ := by
  rw [decode]; exact h

theorem wfTy_option {u : Ty} (hw : wfTy (.option u) = true) : (∀ x, u ≠ .option x) ∧ wfTy u = true := by
  cases u with
  | option _ => cases hw
  | _ => exact ⟨nofun, hw⟩

-- The `_of` lemmas (here and for `cmpList` below) take the fact about an element as a hypothesis: the typed theorems of
-- Props/C20 call them at the element type and so recurse on the type alone.
theorem roundtripList_of (t : Ty) (H : ∀ v, hasTy v t = true → decode t (encode v) = some v) :
    ∀ xs, allHaveTy xs t = true → decodeList t (encodeList xs) = some xs
  | [], _ => by simp [encodeList, decodeList]
  | v :: vs, h => by
    simp only [allHaveTy, Bool.and_eq_true] at h
    simp [encodeList, decodeList, H v h.1, roundtripList_of t H vs h.2]

theorem roundtripDict_of (t : Ty) (H : ∀ v, hasTy v t = true → decode t (encode v) = some v) :
    ∀ kvs, dictHasTy kvs t = true → decodeDict t (encodeDict kvs) = some kvs
  | [], _ => by simp [encodeDict, decodeDict]
  | (k, v) :: rest, h => by
    simp only [dictHasTy, Bool.and_eq_true] at h
    simp [encodeDict, decodeDict, H v h.1, roundtripDict_of t H rest h.2]

/-! ### Comparison, one lexicographic step after another -/

theorem cmpInt_eq_compare (a b : Int) : cmpInt a b = compare a b := (Int.compare_eq_ite_lt a b).symm

theorem cmpStr_cons (a b : Char) (as bs : List Char) :
    cmpStr (a :: as) (b :: bs) = (compare a.toNat b.toNat).then (cmpStr as bs) := by
  -- `then` moves into the two `if`s of `compare`
  simp only [cmpStr, Nat.compare_eq_ite_lt, apply_ite (Ordering.then · (cmpStr as bs))]
  rfl

/-- `cmpStr` is core's lexicographic `compare` on the code points, so its order laws are core's instances for lists. -/
theorem cmpStr_eq_compare (a b : List Char) : cmpStr a b = compare (a.map Char.toNat) (b.map Char.toNat) := by
  induction a generalizing b with
  | nil => cases b <;> rfl
  | cons x xs ih =>
    cases b with
    | nil => rfl
    | cons y ys => rw [cmpStr_cons, ih, List.map_cons, List.map_cons, List.compare_cons_cons]

theorem cmpList_cons (a b : Val) (as bs : List Val) : cmpList (a :: as) (b :: bs) = (cmpV a b).then (cmpList as bs) := by
  rw [cmpList]; cases cmpV a b <;> rfl

theorem cmpFields_cons (p q : List Char × Val) (as bs : List (List Char × Val)) :
    cmpFields (p :: as) (q :: bs) = (cmpV p.2 q.2).then (cmpFields as bs) := by
  rw [cmpFields]; cases cmpV p.2 q.2 <;> rfl

/-- One step of a lexicographic comparison is transitive when its head comparison is transitive and respects its
own `eq` verdicts, and its tail comparison is transitive. -/
theorem then_lt_trans {o₁₂ o₂₃ o₁₃ r₁₂ r₂₃ r₁₃ : Ordering}
    (hlt : o₁₂ = .lt → o₂₃ = .lt → o₁₃ = .lt) (he₁ : o₁₂ = .eq → o₁₃ = o₂₃) (he₂ : o₂₃ = .eq → o₁₃ = o₁₂)
    (hr : r₁₂ = .lt → r₂₃ = .lt → r₁₃ = .lt)
    (h₁ : o₁₂.then r₁₂ = .lt) (h₂ : o₂₃.then r₂₃ = .lt) : o₁₃.then r₁₃ = .lt := by
  rw [Ordering.then_eq_lt] at *
  rcases h₁ with h₁ | ⟨h₁, k₁⟩ <;> rcases h₂ with h₂ | ⟨h₂, k₂⟩
  · exact .inl (hlt h₁ h₂)
  · exact .inl (he₂ h₂ ▸ h₁)
  · exact .inl (he₁ h₁ ▸ h₂)
  · exact .inr ⟨(he₁ h₁).trans h₂, hr k₁ k₂⟩

theorem cmpInt_swap (a b : Int) : cmpInt b a = (cmpInt a b).swap := by
  rw [cmpInt_eq_compare, cmpInt_eq_compare, Int.compare_swap]

theorem cmpStr_swap (a b : List Char) : cmpStr b a = (cmpStr a b).swap := by
  rw [cmpStr_eq_compare, cmpStr_eq_compare]; exact Std.OrientedCmp.eq_swap

theorem cmpList_eq_of (t : Ty) (H : ∀ a b, hasTy a t = true → hasTy b t = true → cmpV a b = .eq → a = b) :
    ∀ a b : List Val, allHaveTy a t = true → allHaveTy b t = true → cmpList a b = .eq → a = b
  | [], [], _, _, _ => rfl
  | [], _ :: _, _, _, h => by cases h
  | _ :: _, [], _, _, h => by cases h
  | x :: xs, y :: ys, ha, hb, h => by
    simp only [allHaveTy, Bool.and_eq_true] at ha hb
    rw [cmpList_cons, Ordering.then_eq_eq] at h
    rw [H x y ha.1 hb.1 h.1, cmpList_eq_of t H xs ys ha.2 hb.2 h.2]

theorem cmpList_lt_of (t : Ty) (He : ∀ a b, hasTy a t = true → hasTy b t = true → cmpV a b = .eq → a = b)
    (Hl : ∀ a b c, hasTy a t = true → hasTy b t = true → hasTy c t = true → cmpV a b = .lt → cmpV b c = .lt → cmpV a c = .lt) :
    ∀ a b c : List Val, allHaveTy a t = true → allHaveTy b t = true → allHaveTy c t = true →
      cmpList a b = .lt → cmpList b c = .lt → cmpList a c = .lt
  | _, [], [], _, _, _, _, h2 => by cases h2
  | _, _ :: _, [], _, _, _, _, h2 => by cases h2
  | _ :: _, [], _, _, _, _, h1, _ => by cases h1
  | [], _, _ :: _, _, _, _, _, _ => rfl
  | x :: xs, y :: ys, z :: zs, ha, hb, hc, h1, h2 => by
    simp only [allHaveTy, Bool.and_eq_true] at ha hb hc
    rw [cmpList_cons] at h1 h2 ⊢
    exact then_lt_trans (Hl x y z ha.1 hb.1 hc.1) (fun e => by rw [He x y ha.1 hb.1 e])
      (fun e => by rw [He y z hb.1 hc.1 e]) (cmpList_lt_of t He Hl xs ys zs ha.2 hb.2 hc.2) h1 h2

/-! ### Derive lists -/

theorem mem_addIfMissing {l : List String} {n d : String} : d ∈ addIfMissing l n ↔ d ∈ l ∨ d = n := by
  unfold addIfMissing
  split
  · next h => exact ⟨.inl, fun h' => h'.elim id (· ▸ List.contains_iff_mem.1 h)⟩
  · simp

theorem mem_eqStep {l : List String} {d : String} : d ∈ eqStep l ↔ d ∈ l ∨ "Eq" ∈ l ∧ d = "PartialEq" := by
  unfold eqStep; split <;> simp_all [mem_addIfMissing]

theorem mem_partialOrdStep {l : List String} {d : String} :
    d ∈ partialOrdStep l ↔ d ∈ l ∨ "PartialOrd" ∈ l ∧ d = "PartialEq" := by
  unfold partialOrdStep; split <;> simp_all [mem_addIfMissing]

theorem mem_ordStep {l : List String} {d : String} :
    d ∈ ordStep l ↔ d ∈ l ∨ "Ord" ∈ l ∧ (d = "PartialOrd" ∨ d = "Eq" ∨ d = "PartialEq") := by
  unfold ordStep; split <;> simp_all [mem_addIfMissing, or_assoc]

/-- Whatever names the user wrote, in whatever order, the derive list the compiler emits satisfies rustc's supertrait
requirements. -/
theorem structDerives_accepted (w : List String) : deriveListAccepted (structDerives w) = true := by
  simp only [deriveListAccepted, Bool.and_eq_true, Bool.or_eq_true, Bool.not_eq_true', ← Bool.not_eq_true,
    List.contains_iff_mem, structDerives, extractDerives, mem_addIfMissing, mem_ordStep, mem_partialOrdStep, mem_eqStep]
  -- deciding the equations between names leaves a propositional goal in `"Eq" ∈ w`, `"Ord" ∈ w`, `"PartialOrd" ∈ w`, …
  simp
  by_cases hE : "Eq" ∈ w <;> by_cases hO : "Ord" ∈ w <;> by_cases hP : "PartialOrd" ∈ w <;> simp [hE, hO, hP]

end Incan.Derive
