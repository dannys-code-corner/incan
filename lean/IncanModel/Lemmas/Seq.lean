import IncanModel.Kernel.Seq
import IncanModel.Lemmas.Num64
/-
The `Int64` loops of the slice/range code against the unbounded-`Int` reference loops.  A slice loop is
the `range` iterator with `get` applied to each item, so the arithmetic of the saturating step is done
once, for the iterator.
-/
namespace Incan.Seq
open Incan.Num (toInt_range bmod_of_range toInt_negOne pos_iff neg_iff toInt_add_of_signs toInt_sub_one
  toInt_ofInt_natCast)

/-! ### Reference (unbounded integers): what Python does -/

/-- `i, i+k, i+2k, …` while `< stop` (Python, `k > 0`); `n` bounds the number of items. -/
def upIdx (i stop step : Int) : Nat → List Int
  | 0 => []
  | n + 1 => if i < stop then i :: upIdx (i + step) stop step n else []

/-- `i, i+k, i+2k, …` while `> stop` (Python, `k < 0`). -/
def downIdx (i stop step : Int) : Nat → List Int
  | 0 => []
  | n + 1 => if i > stop then i :: downIdx (i + step) stop step n else []

def getInt (xs : List α) (j : Int) : Option α := if j < 0 then none else xs[j.toNat]?

/-- CPython's `PySlice_AdjustIndices` for one bound (`dflt` is used when the bound is omitted). -/
def adjIdx (len step : Int) (v : Option Int) (dflt : Int) : Int :=
  match v with
  | none => dflt
  | some x =>
    let x := if x < 0 then x + len else x
    if step > 0 then (if x < 0 then 0 else if x > len then len else x)
    else (if x < -1 then -1 else if x > len - 1 then len - 1 else x)

theorem satAdd_toInt (a b : Int64) :
    (satAdd a b).toInt =
      if a.toInt + b.toInt > 9223372036854775807 then 9223372036854775807
      else if a.toInt + b.toInt < -9223372036854775808 then -9223372036854775808
      else a.toInt + b.toInt := by
  unfold satAdd
  simp only
  split
  · rfl
  · split
    · rfl
    · rw [Int64.toInt_add]; apply bmod_of_range; omega

theorem clamp_toInt (x lo hi : Int64) :
    (clamp x lo hi).toInt =
      if x.toInt < lo.toInt then lo.toInt else if x.toInt > hi.toInt then hi.toInt else x.toInt := by
  simp only [clamp, apply_ite Int64.toInt, Int64.lt_iff_toInt_lt]

/-- `if x < 0 { x + len }`: a negative index and a length never wrap. -/
theorem shift_toInt (x len : Int64) (hl : 0 ≤ len.toInt) :
    (if x < 0 then x + len else x).toInt = if x.toInt < 0 then x.toInt + len.toInt else x.toInt := by
  simp only [apply_ite Int64.toInt, neg_iff]
  split
  · rw [toInt_add_of_signs x len (.inl ⟨‹_›, hl⟩)]
  · rfl

theorem lenI64_toInt (xs : List α) (h : xs.length < 2^63) : (lenI64 xs).toInt = xs.length :=
  toInt_ofInt_natCast _ h

theorem getAt_eq (xs : List α) (i : Int64) : getAt xs i = getInt xs i.toInt := by
  simp only [getAt, getInt, neg_iff]

theorem upIdx_of_le (i stop step : Int) (h : stop ≤ i) (n : Nat) : upIdx i stop step n = [] := by
  cases n with
  | zero => rfl
  | succ n => exact if_neg (Int.not_lt.2 h)

theorem upIdx_fuel (i stop step : Int) (hstep : step > 0) (n m : Nat)
    (hn : stop - i ≤ n) (hm : stop - i ≤ m) : upIdx i stop step n = upIdx i stop step m := by
  induction n generalizing i m with
  | zero =>
    have h : stop ≤ i := by omega
    rw [upIdx_of_le _ _ _ h, upIdx_of_le _ _ _ h]
  | succ n ih =>
    cases m with
    | zero =>
      have h : stop ≤ i := by omega
      rw [upIdx_of_le _ _ _ h, upIdx_of_le _ _ _ h]
    | succ m =>
      unfold upIdx
      split
      · rw [ih (i + step) m (by omega) (by omega)]
      · rfl

theorem upIdx_mem (i stop step : Int) (hstep : step > 0) (n : Nat) (k : Int) (hk : k ∈ upIdx i stop step n) :
    i ≤ k ∧ k < stop := by
  induction n generalizing i with
  | zero => simp [upIdx] at hk
  | succ n ih =>
    unfold upIdx at hk
    by_cases h : i < stop
    · rw [if_pos h] at hk
      rcases List.mem_cons.1 hk with rfl | hk
      · omega
      · have := ih (i + step) hk; omega
    · rw [if_neg h] at hk; simp at hk

theorem downIdx_eq_neg (i stop step : Int) (n : Nat) :
    downIdx i stop step n = (upIdx (-i) (-stop) (-step) n).map (- ·) := by
  induction n generalizing i with
  | zero => rfl
  | succ n ih =>
    simp only [downIdx, upIdx, gt_iff_lt, Int.neg_lt_neg_iff, ih, ← Int.neg_add]
    split
    · simp only [List.map_cons, Int.neg_neg]
    · rfl

theorem downIdx_fuel (i stop step : Int) (hstep : step < 0) (n m : Nat)
    (hn : i - stop ≤ n) (hm : i - stop ≤ m) : downIdx i stop step n = downIdx i stop step m := by
  rw [downIdx_eq_neg, downIdx_eq_neg, upIdx_fuel _ _ _ (by omega) n m (by omega) (by omega)]

theorem downIdx_mem (i stop step : Int) (hstep : step < 0) (n : Nat) (k : Int) (hk : k ∈ downIdx i stop step n) :
    stop < k ∧ k ≤ i := by
  rw [downIdx_eq_neg, List.mem_map] at hk
  obtain ⟨k', hk', rfl⟩ := hk
  have := upIdx_mem _ _ _ (by omega) _ _ hk'
  omega

theorem clampZ_range (x lo hi : Int) (h : lo ≤ hi) :
    lo ≤ (if x < lo then lo else if x > hi then hi else x) ∧
    (if x < lo then lo else if x > hi then hi else x) ≤ hi := by
  split
  · exact ⟨Int.le_refl _, h⟩
  · split <;> omega

theorem clampZ_of_mem {x lo hi : Int} (h1 : lo ≤ x) (h2 : x ≤ hi) :
    (if x < lo then lo else if x > hi then hi else x) = x := by
  rw [if_neg (Int.not_lt.2 h1), if_neg (Int.not_lt.2 h2)]

theorem adjIdx_range_up (len step : Int) (hl : 0 ≤ len) (hs : step > 0) (v : Option Int) (d : Int)
    (hd : 0 ≤ d ∧ d ≤ len) : 0 ≤ adjIdx len step v d ∧ adjIdx len step v d ≤ len := by
  cases v with
  | none => exact hd
  | some x => rw [adjIdx, if_pos hs]; exact clampZ_range _ 0 len hl

theorem adjIdx_range_down (len step : Int) (hl : 0 ≤ len) (hs : ¬ step > 0) (v : Option Int) (d : Int)
    (hd : -1 ≤ d ∧ d ≤ len - 1) : -1 ≤ adjIdx len step v d ∧ adjIdx len step v d ≤ len - 1 := by
  cases v with
  | none => exact hd
  | some x => rw [adjIdx, if_neg hs]; exact clampZ_range _ (-1) (len - 1) (by omega)

/-- The normalised bounds of the code are CPython's adjusted bounds.  A bound that was given is
shifted and clamped by both in the same way; an omitted one is a default that the clamp leaves alone. -/
theorem sliceBounds_toInt (len step : Int64) (hl : 0 ≤ len.toInt) (start stop : Option Int64) :
    (sliceBounds len start stop step).1.toInt =
      adjIdx len.toInt step.toInt (start.map Int64.toInt) (if step.toInt > 0 then 0 else len.toInt - 1) ∧
    (sliceBounds len start stop step).2.toInt =
      adjIdx len.toInt step.toInt (stop.map Int64.toInt) (if step.toInt > 0 then len.toInt else -1) := by
  have hsub := toInt_sub_one len (by omega)
  have hsh := fun x => shift_toInt x len hl
  simp only [sliceBounds, apply_ite Prod.fst, apply_ite Prod.snd, pos_iff, apply_ite Int64.toInt (step.toInt > 0),
    clamp_toInt, Int64.toInt_zero, toInt_negOne, hsub]
  constructor
  · cases start with
    | some x => simp only [Option.getD_some, Option.map_some, adjIdx, hsh]
    | none =>
      by_cases hs : step.toInt > 0
      · simp only [Option.getD_none, Option.map_none, adjIdx, if_pos hs, hsh, Int64.toInt_zero]
        rw [if_neg (Int.lt_irrefl 0)]
        exact clampZ_of_mem (Int.le_refl 0) hl
      · simp only [Option.getD_none, Option.map_none, adjIdx, if_neg hs, hsh, hsub]
        -- the default `len - 1` is `-1` for an empty sequence, and the shift by `len = 0` leaves it there
        have : (if len.toInt - 1 < 0 then len.toInt - 1 + len.toInt else len.toInt - 1) = len.toInt - 1 := by
          split <;> omega
        rw [this]
        exact clampZ_of_mem (by omega) (Int.le_refl _)
  · cases stop with
    | some x => simp only [Option.isSome_some, true_and, Option.getD_some, hsh, Option.map_some, adjIdx]
    | none =>
      simp only [Option.isSome_none, Bool.false_eq_true, false_and, if_false, Option.getD_none, Option.map_none, adjIdx]
      by_cases hs : step.toInt > 0
      · simp only [if_pos hs]
        exact clampZ_of_mem hl (Int.le_refl _)
      · simp only [if_neg hs, toInt_negOne]
        exact clampZ_of_mem (Int.le_refl _) (by omega)

/-- The iterator against the unbounded reference (upward): the `Int64` index with saturating step
agrees with the unbounded one, or both are past the bound `stop` (an `Int64`, so a saturated index is
past it). -/
theorem collect_up (stop step : Int64) (hstep : step.toInt > 0) (f : Nat) (cur : Int64) (j : Int)
    (h : cur.toInt = j ∨ (cur.toInt ≥ stop.toInt ∧ j ≥ stop.toInt)) :
    ((PyRange.collect f { cur := cur, stop := stop, step := step }).1.map Int64.toInt
        = upIdx j stop.toInt step.toInt f) ∧
    (stop.toInt - j ≤ f → (PyRange.collect f { cur := cur, stop := stop, step := step }).2 = true) := by
  have hstep' := (pos_iff step).2 hstep
  have hr := toInt_range stop
  induction f generalizing cur j with
  | zero =>
    simp only [PyRange.collect, PyRange.next, if_pos hstep', Int64.le_iff_toInt_le, upIdx, List.map_nil, true_and]
    intro hf
    rw [if_pos (by omega)]; rfl
  | succ f ih =>
    simp only [PyRange.collect, PyRange.next, if_pos hstep', Int64.le_iff_toInt_le, upIdx]
    by_cases hge : stop.toInt ≤ cur.toInt
    · rw [if_pos hge, if_neg (by omega)]; exact ⟨rfl, fun _ => rfl⟩
    · obtain rfl : cur.toInt = j := h.resolve_right fun h' => hge h'.1
      rw [if_neg hge, if_pos (Int.not_le.1 hge)]
      have := toInt_range cur
      have hrec := ih (satAdd cur step) (cur.toInt + step.toInt) (by rw [satAdd_toInt]; omega)
      exact ⟨congrArg _ hrec.1, fun hf => hrec.2 (by omega)⟩

/-- The same downward, by the same induction and not from `collect_up`: only the `Int` reference walks are mirror
images (`downIdx_eq_neg`); `Int64` negation is not total and the step saturates at the other end of the range. -/
theorem collect_down (stop step : Int64) (hstep : step.toInt < 0) (f : Nat) (cur : Int64) (j : Int)
    (h : cur.toInt = j ∨ (cur.toInt ≤ stop.toInt ∧ j ≤ stop.toInt)) :
    ((PyRange.collect f { cur := cur, stop := stop, step := step }).1.map Int64.toInt
        = downIdx j stop.toInt step.toInt f) ∧
    (j - stop.toInt ≤ f → (PyRange.collect f { cur := cur, stop := stop, step := step }).2 = true) := by
  have hstep' : ¬ step > 0 := fun h => by rw [pos_iff] at h; omega
  have hr := toInt_range stop
  induction f generalizing cur j with
  | zero =>
    simp only [PyRange.collect, PyRange.next, if_neg hstep', Int64.le_iff_toInt_le, downIdx, List.map_nil, true_and]
    intro hf
    rw [if_pos (by omega)]; rfl
  | succ f ih =>
    simp only [PyRange.collect, PyRange.next, if_neg hstep', Int64.le_iff_toInt_le, downIdx]
    by_cases hle : cur.toInt ≤ stop.toInt
    · rw [if_pos hle, if_neg (by omega)]; exact ⟨rfl, fun _ => rfl⟩
    · obtain rfl : cur.toInt = j := h.resolve_right fun h' => hle h'.1
      rw [if_neg hle, if_pos (Int.not_le.1 hle)]
      have := toInt_range cur
      have hrec := ih (satAdd cur step) (cur.toInt + step.toInt) (by rw [satAdd_toInt]; omega)
      exact ⟨congrArg _ hrec.1, fun hf => hrec.2 (by omega)⟩

theorem loopUp_eq_collect (xs : List α) (stop step : Int64) (hstep : step > 0) (f : Nat) (i : Int64) :
    loopUp xs stop step f i =
      ((PyRange.collect f { cur := i, stop := stop, step := step }).1.map Int64.toInt).filterMap (getInt xs) := by
  induction f generalizing i with
  | zero => rfl
  | succ f ih =>
    simp only [loopUp, PyRange.collect, PyRange.next, if_pos hstep, ge_iff_le, ← Int64.not_lt]
    by_cases h : i < stop
    · simp only [if_pos h, if_neg (not_not_intro h), List.map_cons, List.filterMap_cons, ih, getAt_eq]
      cases getInt xs i.toInt <;> rfl
    · simp only [if_neg h, if_pos h]; rfl

theorem loopDown_eq_collect (xs : List α) (stop step : Int64) (hstep : ¬ step > 0) (f : Nat) (i : Int64) :
    loopDown xs stop step f i =
      ((PyRange.collect f { cur := i, stop := stop, step := step }).1.map Int64.toInt).filterMap (getInt xs) := by
  induction f generalizing i with
  | zero => rfl
  | succ f ih =>
    simp only [loopDown, PyRange.collect, PyRange.next, if_neg hstep, gt_iff_lt, ← Int64.not_lt]
    by_cases h : stop < i
    · simp only [if_pos h, if_neg (not_not_intro h), List.map_cons, List.filterMap_cons, ih, getAt_eq]
      cases getInt xs i.toInt <;> rfl
    · simp only [if_neg h, if_pos h]; rfl

end Incan.Seq
