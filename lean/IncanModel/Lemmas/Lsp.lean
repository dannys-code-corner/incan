import IncanModel.Tool.Lsp
/-
The ticket protocol of `execNew`, for `converges` (C18).  Updates and closes follow one rule: handler `i` stores iff
`latest[uri]` is `ticketOf i kind`.  The invariant over schedule prefixes says that a document already holds the
expected payload unless a handler whose guard would pass is still pending.
-/
namespace Incan.Lsp

/-- The value of `latest[uri]` under which handler `i` stores: its own ticket for an update, absence for a close. -/
def ticketOf (i : Nat) : Kind → Option Nat
  | .update _ _ => some i
  | .close => none

theorem execNew_recv {h : List Note} {i : Nat} {n : Note} (hn : h[i]? = some n) (s : St) :
    execNew h s (.recv i) = { s with latest := upd s.latest n.uri (ticketOf i n.kind) } := by
  simp only [execNew, hn]
  cases n.kind <;> rfl

theorem execNew_store {h : List Note} {i : Nat} {n : Note} (hn : h[i]? = some n) (s : St) :
    execNew h s (.store i) =
      if s.latest n.uri = ticketOf i n.kind then { s with docs := upd s.docs n.uri n.kind.payload } else s := by
  simp only [execNew, hn]
  cases n.kind <;> rfl

/-- The payload of the notification that holds ticket `t`; nothing when there is no ticket. -/
def payloadOf (h : List Note) (t : Option Nat) : Option Nat := t.bind fun i => h[i]?.bind (·.kind.payload)

theorem payloadOf_ticketOf {h : List Note} {i : Nat} {n : Note} (hn : h[i]? = some n) :
    payloadOf h (ticketOf i n.kind) = n.kind.payload := by
  cases hk : n.kind <;> simp [payloadOf, ticketOf, hn, hk, Kind.payload]

/-- What holds after every prefix of a valid schedule (`next` received, `pend` not yet stored): the latest ticket of a
document names the expected payload, and the document holds it unless a handler whose guard would pass is pending. -/
structure Inv (h : List Note) (next : Nat) (pend : List Nat) (s : St) : Prop where
  latest_ok : ∀ u, expectedAt h u next = payloadOf h (s.latest u)
  docs_ok : ∀ u, s.docs u = expectedAt h u next ∨
    ∃ i ∈ pend, ∃ n, h[i]? = some n ∧ n.uri = u ∧ s.latest u = ticketOf i n.kind

theorem inv_recv {h : List Note} {next : Nat} {pend : List Nat} {s : St} (hi : Inv h next pend s)
    (hlt : next < h.length) : Inv h (next + 1) (next :: pend) (execNew h s (.recv next)) := by
  have hget : h[next]? = some h[next] := List.getElem?_eq_getElem hlt
  rw [execNew_recv hget]
  refine ⟨fun u => ?_, fun u => ?_⟩ <;> simp only [upd, expectedAt, hget]
  · split
    · next hu => rw [if_pos hu.symm, payloadOf_ticketOf hget]
    · next hu => rw [if_neg (Ne.symm hu)]; exact hi.latest_ok u
  · by_cases hu : u = h[next].uri
    · exact .inr ⟨next, List.mem_cons_self, _, hget, hu.symm, if_pos hu⟩
    · rw [if_neg hu, if_neg (Ne.symm hu)]
      exact (hi.docs_ok u).imp_right fun ⟨i, hm, x⟩ => ⟨i, List.mem_cons_of_mem _ hm, x⟩

theorem inv_store {h : List Note} {next : Nat} {pend : List Nat} {s : St} (hi : Inv h next pend s)
    (i : Nat) : Inv h next (pend.erase i) (execNew h s (.store i)) := by
  -- a pending handler other than `i` stays pending; `i` itself is not the witness when its guard fails for `u`
  have keep : ∀ u, (∀ n, h[i]? = some n → n.uri = u → s.latest u ≠ ticketOf i n.kind) →
      s.docs u = expectedAt h u next ∨
        ∃ j ∈ pend.erase i, ∃ n, h[j]? = some n ∧ n.uri = u ∧ s.latest u = ticketOf j n.kind :=
    fun u hne => (hi.docs_ok u).imp_right fun ⟨j, hm, n, hn, hu, ht⟩ =>
      ⟨j, (List.mem_erase_of_ne fun (e : j = i) => hne n (e ▸ hn) hu (e ▸ ht)).2 hm, n, hn, hu, ht⟩
  cases hget : h[i]? with
  | none =>
    have : execNew h s (.store i) = s := by simp [execNew, hget]
    rw [this]
    exact ⟨hi.latest_ok, fun u => keep u fun n hn => by cases hget.symm.trans hn⟩
  | some n =>
    rw [execNew_store hget]
    split
    · next hg =>
      refine ⟨hi.latest_ok, fun u => ?_⟩
      simp only [upd]
      split
      · next hu => exact .inl (by rw [hu, hi.latest_ok, hg, payloadOf_ticketOf hget])
      · next hu => exact keep u fun m hm hmu => by cases hget.symm.trans hm; exact absurd hmu.symm hu
    · next hg => exact ⟨hi.latest_ok, fun u => keep u fun m hm hmu => by cases hget.symm.trans hm; exact hmu ▸ hg⟩

theorem converge_go (h : List Note) (sched : List Step) (next : Nat) (pend : List Nat) (s : St)
    (hi : Inv h next pend s) (hv : validGo h.length sched next pend = true) :
    (sched.foldl (execNew h) s).docs = expected h := by
  induction sched generalizing next pend s with
  | nil =>
    simp only [validGo, Bool.and_eq_true, beq_iff_eq, List.isEmpty_iff] at hv
    obtain ⟨rfl, rfl⟩ := hv
    funext u
    exact (hi.docs_ok u).resolve_right fun ⟨_, hm, _⟩ => List.not_mem_nil hm
  | cons st rest ih =>
    cases st with
    | recv i =>
      simp only [validGo, Bool.and_eq_true, beq_iff_eq, decide_eq_true_eq] at hv
      obtain ⟨⟨rfl, hlt⟩, hv'⟩ := hv
      exact ih _ _ _ (inv_recv hi hlt) hv'
    | store i =>
      simp only [validGo, Bool.and_eq_true] at hv
      exact ih _ _ _ (inv_store hi i) hv.2

theorem runNew_docs {h : List Note} {sched : List Step} (hv : Valid h sched) : (runNew h sched).docs = expected h :=
  converge_go h sched 0 [] St.init ⟨fun _ => rfl, fun _ => .inl rfl⟩ hv

end Incan.Lsp
