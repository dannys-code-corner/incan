import IncanModel.Kernel.Num
import IncanModel.Lemmas.IntDiv
/-
Bridge between `Int64` (the model of Rust's `i64`) and `Int`: comparisons, the constants, and the
operations that do not wrap.
-/
namespace Incan.Num
open Incan.IntDiv

theorem toInt_negOne : (-1 : Int64).toInt = -1 := by decide

theorem toInt_range (a : Int64) : -2^63 ≤ a.toInt ∧ a.toInt < 2^63 := ⟨a.le_toInt, a.toInt_lt⟩

theorem eq_zero_iff (a : Int64) : a = 0 ↔ a.toInt = 0 := by
  rw [← Int64.toInt_inj, Int64.toInt_zero]

theorem pos_iff (a : Int64) : a > 0 ↔ a.toInt > 0 := by
  rw [gt_iff_lt, Int64.lt_iff_toInt_lt, Int64.toInt_zero]

theorem neg_iff (a : Int64) : a < 0 ↔ a.toInt < 0 := by
  rw [Int64.lt_iff_toInt_lt, Int64.toInt_zero]

theorem adj_iff (r b : Int64) :
    ((r > 0 ∧ b < 0) ∨ (r < 0 ∧ b > 0)) ↔ adj r.toInt b.toInt := by
  rw [pos_iff, pos_iff, neg_iff, neg_iff]

theorem bmod_of_range (x : Int) (h : -2^63 ≤ x ∧ x < 2^63) : x.bmod (2^64) = x := by
  apply Int.bmod_eq_of_le <;> omega

theorem toInt_ofInt_natCast (n : Nat) (h : n < 2^63) : (Int64.ofInt n).toInt = n :=
  Int64.toInt_ofInt_of_le (by omega) (by omega)

theorem toInt_div_safe (a b : Int64) (h : ¬(a = Int64.minValue ∧ b = -1)) :
    (a / b).toInt = a.toInt.tdiv b.toInt :=
  if ha : a = Int64.minValue then Int64.toInt_div_of_ne_right a b fun hb => h ⟨ha, hb⟩
  else Int64.toInt_div_of_ne_left a b ha

/-- Operands of opposite sign: the sum cannot leave the `i64` range. -/
theorem toInt_add_of_signs (a b : Int64)
    (h : a.toInt < 0 ∧ 0 ≤ b.toInt ∨ 0 ≤ a.toInt ∧ b.toInt < 0) :
    (a + b).toInt = a.toInt + b.toInt := by
  rw [Int64.toInt_add]; apply bmod_of_range
  have := toInt_range a; have := toInt_range b; omega

theorem toInt_sub_one (q : Int64) (h : -2^63 < q.toInt) : (q - 1).toInt = q.toInt - 1 := by
  rw [Int64.toInt_sub, Int64.toInt_one]
  have := toInt_range q
  apply bmod_of_range; omega

end Incan.Num
