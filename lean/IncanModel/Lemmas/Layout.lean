import IncanModel.Syntax.Layout
/-
What the two stages of the layout model (Syntax/Layout) do.  Stage 1: `run1` over a cons and an append, a comment body
read in a comment mode, leading blanks at a line start (they only add up to a `width`).  Stage 2: the three branches
of `handle_indentation` (`step2` on a line start), one equation each, so that proofs about the indent stack compare
`n` with the top of the stack once and never unfold `step2`; and the simulation of stage 2 under a re-indentation by
a strictly increasing `f` with `f 0 = 0` (`step2_reindent`, `run2_reindent`).
-/
namespace Incan.Layout

def IsBlankCh (c : Char) : Prop := c = ' ' ∨ c = '\t' ∨ c = '\r'

theorem run1_cons (s : S1) (it : Item) (rest : List Item) : run1 s (it :: rest) = run1 (step1 s it) rest := rfl

theorem run1_append (s : S1) (a b : List Item) : run1 s (a ++ b) = run1 (run1 s a) b := List.foldl_append

/- Stage 1 is reasoned about on states written out as `⟨mode, depth, out⟩`: a single `step1` on a literal character
then computes. -/

theorem step1_hash_code (d : Nat) (o : List Event) : step1 ⟨.code, d, o⟩ (.ch '#') = ⟨.cmtCode, d, o⟩ := rfl

theorem step1_hash_ls (n d : Nat) (o : List Event) : step1 ⟨.ls n, d, o⟩ (.ch '#') = ⟨.cmtLs, d, o⟩ := rfl

theorem comment_body_skipped (s : S1) (hm : s.mode = .cmtCode ∨ s.mode = .cmtLs) (body : List Char)
    (hb : '\n' ∉ body) : run1 s (body.map .ch) = s := by
  induction body with
  | nil => rfl
  | cons c cs ih =>
    rw [List.mem_cons, not_or] at hb
    -- in a comment mode only '\n' changes the state, and `hb` excludes it
    have : step1 s (.ch c) = s := by
      rcases hm with hm | hm <;>
      · simp only [step1, hm]
        split
        · next h => exact absurd (Item.ch.inj h).symm hb.1
        · rfl
    rw [List.map_cons, run1_cons, this]; exact ih hb.2

/-- The indentation `handle_indentation` counts for a run of blanks: 1 for a space, 4 for a tab. -/
def width : List Char → Nat
  | [] => 0
  | ' ' :: r => 1 + width r
  | '\t' :: r => 4 + width r
  | _ :: r => width r

theorem leading_blanks (n d : Nat) (o : List Event) (ws : List Char) (hws : ∀ c ∈ ws, IsBlankCh c) :
    run1 ⟨.ls n, d, o⟩ (ws.map .ch) = ⟨.ls (n + width ws), d, o⟩ := by
  induction ws generalizing n with
  | nil => rfl
  | cons c cs ih =>
    have hcs := fun m => ih m fun x hx => hws x (List.mem_cons_of_mem _ hx)
    rcases hws c List.mem_cons_self with rfl | rfl | rfl
    · exact (hcs (n + 1)).trans (by rw [width, Nat.add_assoc])
    · exact (hcs (n + 4)).trans (by rw [width, Nat.add_assoc])
    · exact hcs n

theorem step2_indent {s : S2} {n : Nat} (h : s.stack.headD 0 < n) :
    step2 s (.lineStart n) = ⟨n :: s.stack, s.out ++ [.indent]⟩ := if_pos h

theorem step2_dedent {s : S2} {n : Nat} (h : n < s.stack.headD 0) :
    step2 s (.lineStart n) = ⟨(popTo n s.stack).1, s.out ++
      (if (popTo n s.stack).1.headD 0 ≠ n then [Tok.inconsistent] else []) ++
      List.replicate (popTo n s.stack).2 .dedent⟩ :=
  (if_neg (Nat.lt_asymm h)).trans (if_pos h)

theorem step2_same {s : S2} : step2 s (.lineStart (s.stack.headD 0)) = s :=
  (if_neg (Nat.lt_irrefl _)).trans (if_neg (Nat.lt_irrefl _))

def reindent (f : Nat → Nat) : Event → Event
  | .lineStart n => .lineStart (f n)
  | e => e

def StrictMono0 (f : Nat → Nat) : Prop := f 0 = 0 ∧ ∀ a b, a < b → f a < f b

theorem StrictMono0.lt_iff {f : Nat → Nat} (hf : StrictMono0 f) {a b : Nat} : f a < f b ↔ a < b := by
  refine ⟨fun h => Nat.lt_of_not_le fun hba => ?_, hf.2 a b⟩
  rcases Nat.lt_or_eq_of_le hba with h' | rfl
  · exact Nat.lt_asymm h (hf.2 _ _ h')
  · exact Nat.lt_irrefl _ h

theorem StrictMono0.le_iff {f : Nat → Nat} (hf : StrictMono0 f) {a b : Nat} : f a ≤ f b ↔ a ≤ b := by
  rw [← Nat.not_lt, ← Nat.not_lt, hf.lt_iff]

theorem StrictMono0.eq_iff {f : Nat → Nat} (hf : StrictMono0 f) {a b : Nat} : f a = f b ↔ a = b := by
  rw [Nat.le_antisymm_iff, Nat.le_antisymm_iff, hf.le_iff, hf.le_iff]

theorem popTo_map {f : Nat → Nat} (hf : StrictMono0 f) (n : Nat) (st : List Nat) :
    popTo (f n) (st.map f) = ((popTo n st).1.map f, (popTo n st).2) := by
  induction st with
  | nil => simp [popTo, hf.1]
  | cons top rest ih =>
    simp only [List.map_cons, popTo, ge_iff_le, hf.le_iff]
    split
    · rfl
    · cases rest with
      | nil => simp [hf.1]
      | cons r rs => rw [List.map_cons] at ih ⊢; rw [ih]

theorem headD_map {f : Nat → Nat} (h0 : f 0 = 0) (st : List Nat) : (st.map f).headD 0 = f (st.headD 0) := by
  rw [← List.headD_map (f := f), h0]

/-- One event: the states stay related (stack mapped through `f`, same output). -/
theorem step2_reindent {f : Nat → Nat} (hf : StrictMono0 f) (s : S2) (e : Event) :
    step2 { stack := s.stack.map f, out := s.out } (reindent f e)
      = { stack := (step2 s e).stack.map f, out := (step2 s e).out } := by
  cases e with
  | lineStart n =>
    rcases Nat.lt_trichotomy n (s.stack.headD 0) with h | rfl | h
    · rw [reindent, step2_dedent h, step2_dedent (by rw [headD_map hf.1]; exact hf.lt_iff.2 h)]
      simp only [popTo_map hf, headD_map hf.1, ne_eq, hf.eq_iff]
    · rw [reindent, ← headD_map hf.1, step2_same, step2_same]
    · rw [reindent, step2_indent h, step2_indent (by rw [headD_map hf.1]; exact hf.lt_iff.2 h)]; rfl
  | _ => rfl

theorem run2_reindent {f : Nat → Nat} (hf : StrictMono0 f) (s : S2) (evs : List Event) :
    run2 { stack := s.stack.map f, out := s.out } (evs.map (reindent f))
      = { stack := (run2 s evs).stack.map f, out := (run2 s evs).out } :=
  List.foldl_map.trans
    (List.foldl_hom (fun s : S2 => (⟨s.stack.map f, s.out⟩ : S2)) (step2_reindent hf))

end Incan.Layout
