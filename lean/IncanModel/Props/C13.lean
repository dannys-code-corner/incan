import IncanModel.Sem.Names
/-
C13 — any legal Incan name is safe to use (identifier level).
-/
namespace Incan.Names
open Generated

/-- The repo's keyword table against the Rust Reference, both ways.  A fixed table, regenerated from the source,
checked by evaluation in the kernel; the two facts share their string literals, which the kernel converts once per
declaration. -/
theorem keyword_tables_agree :
    (∀ k ∈ reference2021, k ∈ rustKeywords ∨ k = "self" ∨ k = "Self") ∧ ∀ k ∈ rustKeywords, k ∈ reference2021 := by
  decide +kernel

/-- The repo's table contains every Rust 2021 strict/reserved keyword (`self`/`Self` are special-cased). -/
theorem table_complete : ∀ k ∈ reference2021, k ∈ rustKeywords ∨ k = "self" ∨ k = "Self" := keyword_tables_agree.1

/-- … and nothing else: escaping is never applied to a name rustc would have accepted plainly. -/
theorem table_sound : ∀ k ∈ rustKeywords, k ∈ reference2021 := keyword_tables_agree.2

/-- Every Rust keyword that the Incan lexer accepts as an identifier can be written as a raw identifier,
except `Self` (recorded finding). -/
theorem legal_keywords_rawable : ∀ k ∈ rustKeywordsLegalInIncan, k ≠ "Self" → k ∉ nonRawable := by decide

theorem nonRawable_reserved : ∀ k ∈ nonRawable, k ∈ reference2021 := by decide

/-- rustc accepts the emitted token of every name but the four keywords that have no raw form: a keyword of the table
is escaped, and a name outside the table is no keyword at all (`table_complete`). -/
theorem validTok_emitTok (n : String) : validTok (emitTok n) = true ↔ n ∉ nonRawable := by
  unfold emitTok
  split
  · next hs =>
    have hn : n ∈ nonRawable := by rcases hs with rfl | rfl <;> decide
    simp [validTok, hn, nonRawable_reserved n hn]
  · next hs =>
    split
    · simp [validTok]
    · next hk =>
      have h1 : n ∉ reference2021 := fun h => (table_complete n h).elim hk hs
      simpa [validTok, h1] using fun h => h1 (nonRawable_reserved n h)

/-- The exception is real: `Self` is a legal Incan identifier that has no Rust spelling. -/
theorem self_type_name_unemittable :
    "Self" ∈ rustKeywordsLegalInIncan ∧ validTok (emitTok "Self") = false :=
  ⟨by decide, Bool.eq_false_iff.2 fun h => (validTok_emitTok "Self").1 h (by decide)⟩

/-- MAIN (partial: names other than `Self`, and not clashing with generated temporaries / relied-on type names,
which the token level cannot see).  For every name that is either not a Rust keyword at all or one of the Rust
keywords the Incan lexer accepts, at every binding position, the emitted token is an identifier rustc accepts. -/
theorem emitted_identifier_valid_partial (p : Pos) (n : String)
    (hlegal : n ∉ reference2021 ∨ n ∈ rustKeywordsLegalInIncan) (hself : n ≠ "Self") :
    validTok (emitAt p n) = true := by
  refine (validTok_emitTok n).2 fun hn => ?_
  rcases hlegal with h | h
  · exact h (nonRawable_reserved n hn)
  · exact legal_keywords_rawable n h hself hn

/-- The name a token spells. -/
def RustTok.name : RustTok → String
  | .plain s => s
  | .raw s => s

theorem name_emitTok (n : String) : (emitTok n).name = n := by
  unfold emitTok
  split
  · rfl
  · split <;> rfl

/-- Emission is injective: distinct names stay distinct, so the binding structure of a consistently renamed
program is the binding structure of the original. -/
theorem emit_injective (a b : String) (h : emitTok a = emitTok b) : a = b := by
  rw [← name_emitTok a, h, name_emitTok]

theorem renamed_emit_injective (p : Pos) (ρ : String → String) (hρ : ∀ x y, ρ x = ρ y → x = y) (a b : String)
    (h : emitAt p (ρ a) = emitAt p (ρ b)) : a = b :=
  hρ _ _ (emit_injective _ _ h)

theorem rename_preserves_binding (p : Pos) (ρ : String → String) (hρ : ∀ x y, ρ x = ρ y → x = y) (a b : String) :
    emitAt p (ρ a) = emitAt p (ρ b) ↔ a = b :=
  ⟨renamed_emit_injective p ρ hρ a b, fun h => by rw [h]⟩

/-- A raw identifier is produced only for table entries (plain names are left exactly as written). -/
theorem plain_names_untouched (n : String) (h : n ∉ rustKeywords) : emitTok n = .plain n := by
  rw [emitTok, if_neg h, ite_self]

example : emitTok "loop" = .raw "loop" ∧ emitTok "zeta" = .plain "zeta" ∧ validTok (emitTok "try") = true := by decide

/-! ### Program level: scopes, shadowing and duplicate binders under a consistent renaming -/

/-- Name resolution in a scope chain (innermost binder first): which binder a use refers to. -/
def resolve {α : Type} [DecidableEq α] : List α → α → Option Nat
  | [], _ => none
  | y :: ys, x => if y = x then some 0 else (resolve ys x).map (· + 1)

theorem resolve_map {α β : Type} [DecidableEq α] [DecidableEq β] (f : α → β) (hf : ∀ x y, f x = f y → x = y)
    (scope : List α) (x : α) : resolve (scope.map f) (f x) = resolve scope x := by
  induction scope with
  | nil => rfl
  | cons y ys ih =>
    -- an injective renaming asks the same question of every binder
    simp only [List.map, resolve, ih, show f y = f x ↔ y = x from ⟨hf _ _, congrArg f⟩]

/-- Program level: after a consistent (injective) renaming, every use in the emitted Rust resolves to the binder it
resolved to in the source — including shadowing (first match in the scope chain), at any scope depth and for
any mix of keyword and non-keyword names. -/
theorem renamed_use_resolves_to_same_binder (p : Pos) (ρ : String → String) (hρ : ∀ x y, ρ x = ρ y → x = y)
    (scope : List String) (x : String) :
    resolve (scope.map fun n => emitAt p (ρ n)) (emitAt p (ρ x)) = resolve scope x :=
  resolve_map (fun n => emitAt p (ρ n)) (renamed_emit_injective p ρ hρ) scope x

/-- … and an unbound name stays unbound: escaping never captures a use (`r#loop` never meets a plain `loop`). -/
theorem renamed_free_stays_free (p : Pos) (ρ : String → String) (hρ : ∀ x y, ρ x = ρ y → x = y)
    (scope : List String) (x : String) (h : x ∉ scope) :
    emitAt p (ρ x) ∉ scope.map fun n => emitAt p (ρ n) :=
  fun hm =>
    let ⟨y, hy, e⟩ := List.mem_map.1 hm
    h (renamed_emit_injective p ρ hρ y x e ▸ hy)

/-- Distinct binders of one scope (parameters of a function, fields of a model, variants of an enum) stay distinct:
rustc's duplicate-definition errors appear in the renamed program exactly where the checker reports them. -/
theorem renamed_scope_nodup (p : Pos) (ρ : String → String) (hρ : ∀ x y, ρ x = ρ y → x = y) (names : List String) :
    (names.map fun n => emitAt p (ρ n)).Nodup ↔ names.Nodup :=
  List.pairwise_map.trans (List.Pairwise.iff fun a b => not_congr (rename_preserves_binding p ρ hρ a b))

/-- Every identifier of a renamed program is one rustc accepts, provided each new name is legal and not `Self`. -/
theorem renamed_program_tokens_valid (p : Pos) (ρ : String → String) (names : List String)
    (hl : ∀ n ∈ names, (ρ n ∉ reference2021 ∨ ρ n ∈ rustKeywordsLegalInIncan) ∧ ρ n ≠ "Self") :
    ∀ t ∈ names.map (fun n => emitAt p (ρ n)), validTok t = true := by
  intro t ht
  rcases List.mem_map.mp ht with ⟨n, hn, rfl⟩
  exact emitted_identifier_valid_partial p (ρ n) (hl n hn).1 (hl n hn).2

/-- Shadowing example: inner `loop` shadows outer `loop`; `x` is found one level further out. -/
example : resolve (["loop", "x", "loop"].map fun n => emitAt .local_ n) (emitAt .local_ "loop") = some 0
  ∧ resolve (["loop", "x", "loop"].map fun n => emitAt .local_ n) (emitAt .local_ "x") = some 1 := by decide

end Incan.Names
