import IncanModel.Lemmas.Seq
/-
C05 — Indexing, slicing and range follow Python for every argument.

Reference semantics (unbounded integers): `pyIndices` is CPython's slice arithmetic
(`PySlice_AdjustIndices` + "i, i+k, i+2k, … until the bound is reached"), `pyRange` is Python's `range`.
The theorems hold for **all** `Int64` start/end/step values and all lists shorter than 2^63.
-/
namespace Incan.Seq
open Incan.Num (pos_iff neg_iff eq_zero_iff)

/-- Python: the indices selected by `xs[start:stop:step]` on a sequence of length `len`. -/
def pyIndices (len : Nat) (start stop : Option Int) (step : Int) : List Int :=
  let L : Int := len
  if step > 0 then
    let i := adjIdx L step start 0
    let j := adjIdx L step stop L
    upIdx i j step (j - i).toNat
  else
    let i := adjIdx L step start (L - 1)
    let j := adjIdx L step stop (-1)
    downIdx i j step (i - j).toNat

/-- Python: `xs[start:stop:step]`. -/
def pySlice (xs : List α) (start stop : Option Int) (step : Int) : List α :=
  (pyIndices xs.length start stop step).filterMap (getInt xs)

/-- Python: `list(range(a, b, c))`. -/
def pyRange (a b c : Int) : List Int :=
  if c > 0 then upIdx a b c (b - a).toNat else downIdx a b c (a - b).toNat

theorem pyIndices_eq_pyRange (len : Nat) (start stop : Option Int) (step : Int) :
    pyIndices len start stop step =
      pyRange (adjIdx len step start (if step > 0 then 0 else len - 1))
        (adjIdx len step stop (if step > 0 then len else -1)) step := by
  unfold pyIndices pyRange
  split <;> rfl

/-- Every selected index is a valid position: none is out of range. -/
theorem pyIndices_in_range (len : Nat) (start stop : Option Int) (step : Int) (hstep : step ≠ 0)
    (k : Int) (hk : k ∈ pyIndices len start stop step) : 0 ≤ k ∧ k < len := by
  have hl : (0 : Int) ≤ len := Int.natCast_nonneg len
  unfold pyIndices at hk
  simp only at hk
  by_cases hs : step > 0
  · rw [if_pos hs] at hk
    have h1 := adjIdx_range_up len step hl hs start 0 ⟨Int.le_refl 0, hl⟩
    have h2 := adjIdx_range_up len step hl hs stop len ⟨hl, Int.le_refl _⟩
    have := upIdx_mem _ _ _ hs _ k hk
    exact ⟨Int.le_trans h1.1 this.1, Int.lt_of_lt_of_le this.2 h2.2⟩
  · rw [if_neg hs] at hk
    have h1 := adjIdx_range_down len step hl hs start (len - 1) ⟨by omega, Int.le_refl _⟩
    have h2 := adjIdx_range_down len step hl hs stop (-1) ⟨Int.le_refl _, by omega⟩
    have := downIdx_mem _ _ _ (by omega) _ k hk
    omega

/-- The iterator yields Python's `range` and reports exhaustion, given fuel for `|b - a|` items. -/
theorem collect_eq_pyRange (a b c : Int64) (hc : c ≠ 0) (fuel : Nat)
    (hfuel : (if c > 0 then (b.toInt - a.toInt).toNat else (a.toInt - b.toInt).toNat) ≤ fuel) :
    (PyRange.collect fuel { cur := a, stop := b, step := c }).1.map Int64.toInt
        = pyRange a.toInt b.toInt c.toInt ∧
    (PyRange.collect fuel { cur := a, stop := b, step := c }).2 = true := by
  unfold pyRange
  simp only [pos_iff] at hfuel
  by_cases hs : c.toInt > 0
  · rw [if_pos hs, Int.toNat_le] at hfuel
    rw [if_pos hs]
    have := collect_up b c hs fuel a a.toInt (Or.inl rfl)
    exact ⟨this.1.trans (upIdx_fuel _ _ _ hs _ _ hfuel (Int.self_le_toNat _)), this.2 hfuel⟩
  · have hneg : c.toInt < 0 := by rw [Ne, eq_zero_iff] at hc; omega
    rw [if_neg hs, Int.toNat_le] at hfuel
    rw [if_neg hs]
    have := collect_down b c hneg fuel a a.toInt (Or.inl rfl)
    exact ⟨this.1.trans (downIdx_fuel _ _ _ hneg _ _ hfuel (Int.self_le_toNat _)), this.2 hfuel⟩

/-- `list_slice` walks the `range` iterator from one normalised bound to the other and collects `get`. -/
theorem listSlice_eq_collect (xs : List α) (start stop step : Option Int64) (hstep : step.getD 1 ≠ 0) :
    listSlice xs start stop step = .ok
      (((PyRange.collect (xs.length + 1)
          { cur := (sliceBounds (lenI64 xs) start stop (step.getD 1)).1,
            stop := (sliceBounds (lenI64 xs) start stop (step.getD 1)).2,
            step := step.getD 1 }).1.map Int64.toInt).filterMap (getInt xs)) := by
  simp only [listSlice, if_neg hstep]
  split
  · rw [loopUp_eq_collect _ _ _ ‹_›]
  · rw [loopDown_eq_collect _ _ _ ‹_›]

/-- `list_slice` returns exactly Python's slice, for all i64 start/end/step (including MIN/MAX). -/
theorem listSlice_eq_python (xs : List α) (hlen : xs.length < 2^63) (start stop step : Option Int64)
    (hstep : step.getD 1 ≠ 0) :
    listSlice xs start stop step =
      .ok (pySlice xs (start.map Int64.toInt) (stop.map Int64.toInt) (step.getD 1).toInt) := by
  have hl : (0 : Int) ≤ xs.length := Int.natCast_nonneg _
  have hL := lenI64_toInt xs hlen
  obtain ⟨hs, he⟩ := sliceBounds_toInt (lenI64 xs) (step.getD 1) (hL ▸ hl) start stop
  rw [hL] at hs he
  rw [listSlice_eq_collect xs start stop step hstep, pySlice, pyIndices_eq_pyRange, ← hs, ← he]
  refine congrArg (fun l => Except.ok (List.filterMap (getInt xs) l)) (collect_eq_pyRange _ _ _ hstep _ ?_).1
  -- the fuel `len + 1` covers the distance between two bounds in `[0, len]`, or in `[-1, len - 1]`
  simp only [hs, he, pos_iff]
  clear hs he hL hlen  -- `omega` is slow with these in scope
  by_cases h : (step.getD 1).toInt > 0
  · simp only [if_pos h]
    have h1 := adjIdx_range_up xs.length _ hl h (start.map Int64.toInt) 0 ⟨Int.le_refl 0, hl⟩
    have h2 := adjIdx_range_up xs.length _ hl h (stop.map Int64.toInt) xs.length ⟨hl, Int.le_refl _⟩
    omega
  · simp only [if_neg h]
    have h1 := adjIdx_range_down xs.length _ hl h (start.map Int64.toInt) (xs.length - 1) ⟨by omega, Int.le_refl _⟩
    have h2 := adjIdx_range_down xs.length _ hl h (stop.map Int64.toInt) (-1) ⟨Int.le_refl _, by omega⟩
    omega

/-- The two copies of the slice code (strings in `incan_core`, lists in `incan_stdlib`) agree. -/
theorem strSlice_eq_listSlice (s : List Char) (start stop step : Option Int64) :
    strSlice s start stop step = listSlice s start stop step := rfl

theorem strSlice_eq_python (s : List Char) (hlen : s.length < 2^63) (start stop step : Option Int64)
    (hstep : step.getD 1 ≠ 0) :
    strSlice s start stop step =
      .ok (pySlice s (start.map Int64.toInt) (stop.map Int64.toInt) (step.getD 1).toInt) := by
  rw [strSlice_eq_listSlice]; exact listSlice_eq_python s hlen start stop step hstep

/-- A zero step is always the documented `ValueError`, never anything else. -/
theorem slice_step_zero (xs : List α) (start stop : Option Int64) :
    listSlice xs start stop (some 0) = .error .sliceStepZero ∧
    Err.sliceStepZero.message = "ValueError: slice step cannot be zero" := by
  constructor
  · simp [listSlice]
  · rfl

/-- `range(a, b, c)` yields exactly Python's `range(a, b, c)` and the iterator terminates after at
most `|b - a|` items — for **all** i64 triples with `c ≠ 0` (no overflow hypothesis). -/
theorem range_eq_python (a b c : Int64) (hc : c ≠ 0) (fuel : Nat)
    (hfuel : (if c > 0 then (b.toInt - a.toInt).toNat else (a.toInt - b.toInt).toNat) ≤ fuel) :
    ∃ r, range a b c = .ok r ∧
      (r.collect fuel).1.map Int64.toInt = pyRange a.toInt b.toInt c.toInt ∧
      (r.collect fuel).2 = true :=
  ⟨_, if_neg hc, collect_eq_pyRange a b c hc fuel hfuel⟩

theorem range_step_zero (a b : Int64) :
    range a b 0 = .error .rangeStepZero ∧
    Err.rangeStepZero.message = "ValueError: range() arg 3 must not be zero" :=
  ⟨if_pos rfl, rfl⟩

/-- Python indexing: `xs[i]` with negative indices counted from the end. -/
def pyIndex (xs : List α) (i : Int) : Option α :=
  let j := if i < 0 then i + xs.length else i
  if j < 0 ∨ j ≥ xs.length then none else xs[j.toNat]?

theorem listGet_eq_python (xs : List α) (hlen : xs.length < 2^63) (i : Int64) :
    listGet xs i = match pyIndex xs i.toInt with
      | some v => .ok v
      | none => .error (.listIndexOutOfRange i xs.length) := by
  have hL := lenI64_toInt xs hlen
  have hsh := shift_toInt i (lenI64 xs) (hL ▸ Int.natCast_nonneg _)
  unfold listGet pyIndex
  simp only
  generalize (if i < 0 then i + lenI64 xs else i) = i' at hsh ⊢
  rw [hL] at hsh
  simp only [neg_iff, Int64.le_iff_toInt_le, hL, ← hsh]
  split
  · rfl
  · cases xs[i'.toInt.toNat]? <;> rfl

/-- `normalize_index` is Python's index normalisation: the position, or `none` when out of range. -/
theorem normalizeIndex_eq (len : Nat) (hlen : len < 2^63) (i : Int64) :
    normalizeIndex len i =
      let j := if i.toInt < 0 then i.toInt + len else i.toInt
      if j < 0 ∨ j ≥ len then none else some j.toNat := by
  have hL := Incan.Num.toInt_ofInt_natCast len hlen
  have hsh := shift_toInt i (Int64.ofInt len) (by rw [hL]; exact Int.natCast_nonneg _)
  unfold normalizeIndex
  simp only
  generalize (if i < 0 then i + Int64.ofInt len else i) = i' at hsh ⊢
  rw [hL] at hsh
  simp only [neg_iff, Int64.le_iff_toInt_le, hL, ← hsh]
  split
  · subst ‹len = 0›
    rw [if_pos (by omega)]
  · rfl

theorem strIndex_eq_python (s : List Char) (hlen : s.length < 2^63) (i : Int64) :
    strIndex s i = match pyIndex s i.toInt with
      | some v => .ok v
      | none => .error .stringIndexOutOfRange := by
  rw [strIndex, normalizeIndex_eq _ hlen, pyIndex]
  simp only
  generalize (if i.toInt < 0 then i.toInt + ↑s.length else i.toInt) = j
  by_cases h : j < 0 ∨ j ≥ ↑s.length
  · rw [if_pos h, if_pos h]
  · rw [if_neg h, if_neg h]; simp only; cases s[j.toNat]? <;> rfl

/-! Concrete instances (non-vacuity and the overflow witnesses that the `fix:` commit repaired). -/
example : listSlice [0, 1, 2, 3, 4, 5, 6, 7, 8, 9] (some 5) none (some Int64.maxValue) = .ok [5] := by decide
example : listSlice [0, 1, 2, 3, 4] none none (some (-1)) = .ok [4, 3, 2, 1, 0] := by decide
example : listSlice [0, 1, 2, 3, 4] (some (-2)) none (some Int64.maxValue) = .ok [3] := by decide
example : (PyRange.collect 5 { cur := Int64.maxValue - 1, stop := Int64.maxValue, step := 2 })
    = ([Int64.maxValue - 1], true) := by decide
example : strIndex "héllo".toList (-1) = .ok 'o' := by decide

end Incan.Seq
