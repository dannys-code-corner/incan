import IncanModel.Props.C08
import IncanModel.Tool.FmtCli
import IncanModel.Lemmas.Writer
/-
C09 — Formatting is idempotent and consistent with --check.

Four parts:
  * the general fact that makes C09 a consequence of C08 for any printer/parser pair;
  * idempotence on the expression ladder, as a corollary of the C08 round trip (for every producible
    expression, formatting the re-parsed formatted text gives the same tokens);
  * the CLI decision logic, stated outright: `--check` / `--diff` never change a file; after a
    rewriting run, `--check` succeeds exactly when the formatter is idempotent on that file;
  * text hygiene: the output writer (indentation, line breaks, blank lines) has a model (Tool/Writer) and a theorem —
    it never adds a tab or trailing whitespace to what the formatter hands it; what the formatter hands it (pieces
    that do not end a line in a blank) and the single final newline are decided by the oracle.
-/
namespace Incan.Ladder

/-- Any printer/parser pair that round-trips is idempotent: re-formatting formatted output is a no-op. -/
theorem idempotent_of_roundtrip {A T : Type} (fmt : A → T) (parse : T → Option A) (e : A)
    (h : parse (fmt e) = some e) : (parse (fmt e)).map fmt = some (fmt e) := by
  rw [h]; rfl

/-- `fmt (parse (fmt e)) = fmt e` for every producible expression, for every large enough fuel. -/
theorem fmt_idempotent (e : Expr) (h : WL 0 e) :
    ∃ f0, ∀ f, f0 ≤ f → (parse f 0 (fmt e)).map (fun r => fmt r.1) = some (fmt e) := by
  obtain ⟨f0, hf⟩ := roundtrip e h
  exact ⟨f0, fun f hle => idempotent_of_roundtrip (fun r : Res => fmt r.1) (parse f 0) (e, []) (hf f hle)⟩

end Incan.Ladder

namespace Incan.FmtCli

/-- `--check` and `--diff` are read-only, whatever the formatter does. -/
theorem check_diff_readonly (fmt : String → Option String) (checkMode diffMode : Bool) (source : String)
    (h : checkMode = true ∨ diffMode = true) :
    (perFile fmt checkMode diffMode source).contents = source ∧
    (perFile fmt checkMode diffMode source).formatted = false := by
  unfold perFile
  cases hf : fmt source with
  | none => simp
  | some t =>
    rcases h with h | h
    · simp [h]
    · cases checkMode <;> simp [h]

/-- `--check` succeeds on a file exactly when the formatter maps it to itself. -/
theorem check_ok_iff (fmt : String → Option String) (s : String) :
    exitOk true false (perFile fmt true false s) = true ↔ fmt s = some s := by
  cases h : fmt s with
  | none => simp [perFile, h, exitOk]
  | some t => simpa [perFile, h, exitOk] using eq_comm

theorem perFile_rewrite (fmt : String → Option String) (source t : String) (h : fmt source = some t) :
    (perFile fmt false false source).contents = t := by
  by_cases hc : source = t
  · subst hc; simp [perFile, h]
  · simp [perFile, h, hc]

/-- After `incan fmt` rewrote a file, `incan fmt --check` exits 0 on it — provided the formatter is
idempotent on that file (C09's first clause); and it fails otherwise. -/
theorem check_after_fmt (fmt : String → Option String) (source t : String) (h1 : fmt source = some t) :
    let after := (perFile fmt false false source).contents
    (fmt t = some t → exitOk true false (perFile fmt true false after) = true) ∧
    (∀ t', fmt t = some t' → t' ≠ t → exitOk true false (perFile fmt true false after) = false) := by
  simp only [perFile_rewrite fmt source t h1]
  refine ⟨(check_ok_iff fmt t).2, fun t' h2 hne => ?_⟩
  rw [Bool.eq_false_iff, Ne, check_ok_iff, h2]
  exact fun h => hne (Option.some.inj h)

/-- A file that does not parse is reported as an error and left untouched in every mode. -/
theorem unparseable_untouched (fmt : String → Option String) (c d : Bool) (source : String)
    (h : fmt source = none) :
    (perFile fmt c d source).contents = source ∧ exitOk c d (perFile fmt c d source) = false := by
  simp [perFile, h, exitOk]

/-- `check_formatted` agrees with the CLI's notion of "changed". -/
theorem checkFormatted_iff (fmt : String → Option String) (source t : String) (h : fmt source = some t) :
    checkFormatted fmt source = some true ↔ (perFile fmt true false source).needsFormatting = false := by
  simp [checkFormatted, perFile, h]

/-- Over a whole directory, `--check` / `--diff` leave **every** file untouched, wherever it comes in
the list and whatever happened to the files before it. -/
theorem runFiles_readonly (fmt : String → Option String) (c d : Bool) (files : List String)
    (h : c = true ∨ d = true) :
    (runFiles fmt c d files).1.map (·.contents) = files :=
  (List.map_map ..).trans
    ((List.map_congr_left fun f _ => (check_diff_readonly fmt c d f h).1).trans (List.map_id _))

example : (perFile (fun _ => some "x\n") true true "y").contents = "y" := by decide

end Incan.FmtCli

namespace Incan.Writer

/-- MAIN (writer): whatever sequence of operations the formatter performs, as long as its pieces contain no tab and no
line break and it never ends a line right after a piece that ends in a blank, the text has no trailing whitespace (on a finished line or at its very end) and
no tab — indentation and blank lines never add any. -/
theorem writer_hygiene (ops : List Op) (width : Nat) (hc : clientOk false ops = true) :
    noTrailing (run { width := width } ops).out = true ∧ (run { width := width } ops).out.all (fun c => !isTab c) = true ∧
      endsBlank (run { width := width } ops).out = false :=
  have h := inv_run ops { width := width } false ⟨rfl, rfl, nofun⟩ hc
  ⟨h.trailing, h.tabs, h.not_blank⟩

/-- A blank line inside an indented block is empty: a line break at line start adds nothing but the line break. -/
theorem blank_line_is_empty (w : W) (_h : w.atStart = true) : (newline w).out = w.out ++ ['\n'] := rfl

/-- The seeded variant (C09-6) that writes the indentation before every line break leaves blanks at the end of a line. -/
def newlineIndenting (w : W) : W := newline (writeIndent w)

theorem indenting_newline_leaves_trailing_blanks :
    noTrailing (newlineIndenting (newline (write { level := 1 } ['x']))).out = false := by decide

end Incan.Writer
