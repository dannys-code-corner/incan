import IncanModel.Lemmas.Pos
import IncanModel.Props.C19
import IncanModel.Lemmas.Layout
/-
C11 — The front end is total and its diagnostics are well-formed (the part a theorem can carry).

Proved here, for **every** document and **every** raw span/offset (inside or outside the file, on or
off a character boundary):
  * terminal rendering (`format_error` / `get_line_info`): the two places where the Rust code slices
    the source by byte offset (`source[line_start..]`, `source[line_start..line_end]`) are always on
    character boundaries of the source, `col_num - 1` never underflows, and the reported line exists;
  * editor rendering (`span_to_range`): the range theorems of C19 (imported, not restated) — the range is ordered and
    inside the document;
  * the layout layer of the lexer is a total function (two left folds) that always ends the stream with EOF after
    closing every open block: `Bal`, the invariant of the indent stack, gives both balance theorems.
Everything else the property covers (token scanners, parser, type checker, formatter, emitter) has no
model here and is decided by the oracle stream of the check (fuzzing under catch_unwind + watchdog).
-/
namespace Incan.Pos

/-- **Terminal rendering never slices off a boundary and never underflows**, for every document and
every raw offset: `line_start` is the byte length of a character prefix of the source (so
`source[line_start..]` is a valid slice and equals the model's `rest`), `line_start ≤ min(offset, len)`, and the column
is a count of characters plus one, so `" ".repeat(col_num - 1)` cannot underflow. -/
theorem getLineInfo_total (doc : List Char) (offset : Nat) :
    (∃ pre', doc = pre' ++ (gliGo doc 0 (min offset (utf8Len doc)) 1 0 doc).2.2 ∧
       (gliGo doc 0 (min offset (utf8Len doc)) 1 0 doc).2.1 = utf8Len pre') ∧
    (gliGo doc 0 (min offset (utf8Len doc)) 1 0 doc).2.1 ≤ min offset (utf8Len doc) ∧
    1 ≤ (getLineInfo doc offset).2.1 := by
  obtain ⟨pre, post, rfl, hr⟩ := exists_read doc 0 (min offset (utf8Len doc))
  obtain ⟨ls', h, h2, h3⟩ := gliGo_start pre post _ hr
  have hs := (lastLine_spec pre).2
  rw [h]
  refine ⟨?_, h3, by simp [getLineInfo]⟩
  generalize lastLine pre = l at *
  -- the line starts just after the last newline read, or at the start of the document
  rcases hs with ⟨b, rfl⟩ | rfl
  · refine ⟨b ++ ['\n'], by simp, ?_⟩
    simp only [utf8Len_append, utf8Len, newline_size] at h2 ⊢
    omega
  · exact ⟨[], rfl, by simp only [utf8Len]; omega⟩

/-- The line text handed to the renderer contains no newline (one physical line). -/
theorem getLineInfo_one_line (doc : List Char) (offset : Nat) :
    '\n' ∉ (getLineInfo doc offset).2.2 :=
  fun h => by simpa using List.all_eq_true.1 List.all_takeWhile _ h

end Incan.Pos

namespace Incan.Layout

/-- The layout layer always terminates its output with EOF, whatever the input. -/
theorem lex_ends_with_eof (items : List Item) : (lex items).getLast? = some Tok.eof :=
  List.getLast?_concat

/-- One `popTo` accounts for what it pops: the entries it removes are the dedents it reports, unless the stack ran out
and the safety net put `[0]` in its place. -/
theorem popTo_count (n : Nat) (st : List Nat) (h : st ≠ []) :
    (popTo n st).1.length + (popTo n st).2 = st.length ∨ (popTo n st).1 = [0] := by
  -- the branches of `popTo`: empty stack (1), `n ≥ top` (2), the last entry popped (3), an entry popped and more below (4)
  fun_induction popTo n st with
  | case1 | case3 => exact Or.inr rfl
  | case2 => exact Or.inl rfl
  | case4 _ _ _ _ _ _ hne ih => exact (ih hne).imp (congrArg Nat.succ) id

theorem popTo_spec (n : Nat) (st : List Nat) (h : st.getLast? = some 0) :
    (popTo n st).1.getLast? = some 0 ∧ (popTo n st).1.length + (popTo n st).2 = st.length := by
  fun_induction popTo n st with
  | case1 => cases h
  | case2 => exact ⟨h, rfl⟩
  | case3 top hn => cases h; exact absurd (Nat.zero_le n) hn
  | case4 _ rest _ _ _ _ hne ih =>
    rw [List.getLast?_cons_of_ne_nil hne] at h
    exact ⟨(ih h).1, congrArg Nat.succ (ih h).2⟩

/-- Invariant of the indentation stack: bottom level is column 0 and every open block is on it. -/
def Bal (s : S2) : Prop :=
  s.stack.getLast? = some 0 ∧ s.stack.length + s.out.count .dedent = 1 + s.out.count .indent

theorem bal_init : Bal S2.init := by simp [Bal, S2.init]

/-- What one event does to a balanced state: it appends tokens whose DEDENTs and INDENTs account for the change of
the stack height. -/
theorem Bal.append {st st' : List Nat} {out : List Tok} (h : Bal ⟨st, out⟩) (ts : List Tok)
    (h1 : st'.getLast? = some 0) (h2 : st'.length + ts.count .dedent = st.length + ts.count .indent) :
    Bal ⟨st', out ++ ts⟩ := by
  refine ⟨h1, ?_⟩
  have := h.2
  simp only [List.count_append] at this ⊢
  omega

theorem Bal.stack_pos {s : S2} (h : Bal s) : 0 < s.stack.length := by
  obtain ⟨_ | _, _⟩ := s
  · cases h.1
  · exact Nat.succ_pos _

theorem bal_step (s : S2) (e : Event) (h : Bal s) : Bal (step2 s e) := by
  cases e with
  | lineStart n =>
    rcases Nat.lt_trichotomy n (s.stack.headD 0) with hn | rfl | hn
    · rw [step2_dedent hn]
      have sp := popTo_spec n s.stack h.1
      refine (h.append _ h.1 ?_).append _ sp.1 ?_
      · split <;> rfl
      · rw [List.count_replicate_self, List.count_replicate]; exact sp.2
    · rw [step2_same]; exact h
    · rw [step2_indent hn]
      exact h.append [.indent]
        ((List.getLast?_cons_of_ne_nil (List.ne_nil_of_length_pos h.stack_pos)).trans h.1) rfl
  | tok | newline | bad => exact h.append _ h.1 (by simp)

theorem bal_run (s : S2) (evs : List Event) (h : Bal s) : Bal (run2 s evs) :=
  List.foldlRecOn evs step2 h fun s hs e _ => bal_step s e hs

/-- Blocks always balance: for **every** input the token stream handed to the parser has exactly as many DEDENTs as
INDENTs (inconsistent dedents included — the error token is added, the blocks are still closed), so the parser's
block recursion always finds its closing token before EOF. -/
theorem indents_balance (items : List Item) : (lex items).count .dedent = (lex items).count .indent := by
  unfold lex tokens finish
  have h := bal_run S2.init (events items) bal_init
  have := h.stack_pos
  have := h.2
  simp [List.count_append, List.count_replicate]
  omega

/-- After any number of events (every prefix of the input, at event granularity) the lexer has never closed more
blocks than it opened, and its indentation stack is never empty. -/
theorem never_more_dedents (evs : List Event) :
    (run2 S2.init evs).out.count .dedent ≤ (run2 S2.init evs).out.count .indent ∧ (run2 S2.init evs).stack ≠ [] := by
  have h := bal_run S2.init evs bal_init
  have := h.stack_pos
  have := h.2
  exact ⟨by omega, List.ne_nil_of_length_pos h.stack_pos⟩

end Incan.Layout
