import IncanModel.Tool.Imports
/-
C14 — Imports resolve the same everywhere and respect visibility.

Full statement `ResolversAgree`: the command-line compiler and the language server resolve every import
of every file to the same path.  It is false for the code as written (three kernel-checked witnesses
below, each replayed on the real code by the check and listed as a known finding); it is proved under
the three hypotheses that exclude exactly those witnesses.
-/
namespace Incan.Imports

/-- The full property: every import of every file, in every file system. -/
def ResolversAgree : Prop :=
  ∀ (fs : FS) (entryDir importerDir : Path) (imp : Import),
    resolveCli fs entryDir imp = resolveShared fs importerDir imp

/-- H1: the import names a module by all of its segments (`from a.b import x`, or a single segment). -/
def H_form (imp : Import) : Prop := imp.form = .from_ ∨ imp.segments.length ≤ 1
/-- H2: the importing file lives in the entry file's directory. -/
def H_sameDir (entryDir importerDir : Path) : Prop := entryDir = importerDir
/-- H3: the module is not a directory module (`<path>/mod.incn`). -/
def H_noModFile (fs : FS) (dir : Path) (imp : Import) : Prop :=
  ∀ t, targetDir fs dir imp = some t →
    fs.fileExists (t ++ imp.segments ++ ["mod.incn"]) = false ∧
    fs.fileExists (t ++ imp.segments ++ ["mod.incan"]) = false

theorem resolvers_agree_partial (fs : FS) (entryDir importerDir : Path) (imp : Import)
    (h1 : H_form imp) (h2 : H_sameDir entryDir importerDir) (h3 : H_noModFile fs entryDir imp) :
    resolveCli fs entryDir imp = resolveShared fs importerDir imp := by
  cases h2
  -- H1: the CLI keeps every segment
  have hseg : imp.form = .module → ¬ imp.segments.length > 1 := fun hm =>
    Nat.not_lt.2 (h1.resolve_left (by simp [hm]))
  unfold resolveCli resolveShared
  cases ht : targetDir fs entryDir imp with
  | none => simp only [ite_self]
  | some t =>
    -- H3: the two `mod` probes of the language server fail
    cases hf : imp.form <;> simp only [hf, hseg, h3 t ht, Bool.false_eq_true, if_false]

/-! ### Witnesses for the excluded cases (each is a known finding) -/

def wfs : FS := { files := [["p", "a.incn"], ["p", "a", "b.incn"], ["p", "pkg", "mod.incn"], ["p", "sub", "c.incn"],
                            ["p", "sub", "d.incn"], ["p", "d.incn"]],
                  dirs := [["p"], ["p", "a"], ["p", "pkg"], ["p", "sub"]] }

/-- `import a::b`: the CLI reads `a.incn` (b is an item), the language server reads `a/b.incn`. -/
theorem cli_drops_last_segment :
    resolveCli wfs ["p"] ⟨.module, ["a", "b"], false, 0⟩ = some ["p", "a.incn"] ∧
    resolveShared wfs ["p"] ⟨.module, ["a", "b"], false, 0⟩ = some ["p", "a", "b.incn"] := by decide

/-- `from pkg import x` with `pkg/mod.incn`: found by the language server, not by the CLI. -/
theorem cli_ignores_mod_file :
    resolveCli wfs ["p"] ⟨.from_, ["pkg"], false, 0⟩ = none ∧
    resolveShared wfs ["p"] ⟨.from_, ["pkg"], false, 0⟩ = some ["p", "pkg", "mod.incn"] := by decide

/-- `from d import x` written in `p/sub/c.incn`: the CLI resolves against the entry directory `p`
(finding `p/d.incn`), the language server against the importing file's directory (`p/sub/d.incn`). -/
theorem cli_resolves_relative_to_entry :
    resolveCli wfs ["p"] ⟨.from_, ["d"], false, 0⟩ = some ["p", "d.incn"] ∧
    resolveShared wfs ["p", "sub"] ⟨.from_, ["d"], false, 0⟩ = some ["p", "sub", "d.incn"] := by decide

theorem resolvers_do_not_agree : ¬ ResolversAgree := fun h => by
  have := h wfs ["p"] ["p"] ⟨.module, ["a", "b"], false, 0⟩
  rw [cli_drops_last_segment.1, cli_drops_last_segment.2] at this
  exact absurd this (by decide)

/-- A missing module is silently skipped by the CLI's collection (no diagnostic): the witness is any
import that resolves to nothing. -/
theorem cli_skips_missing_module :
    collectGo wfs ["p"] (fun f => if f = ["p", "main.incn"] then [⟨.from_, ["nope"], false, 0⟩] else [])
      10 [["p", "main.incn"]] [] = [["p", "main.incn"]] := by decide

/-- One step of the CLI's work list either drops an already processed file (the queue shrinks) or
processes a new file (the processed set grows).  (Either way the pair (#files not yet processed, queue length) gets
smaller, which is why cyclic imports cannot keep the real loop busy for ever; the model itself recurses on fuel.) -/
theorem worklist_step_decreases (fs : FS) (entryDir : Path) (importsOf : Path → List Import)
    (file : Path) (todo processed : List Path) :
    (processed.contains file = true →
        collectGo fs entryDir importsOf 1 (file :: todo) processed = processed) ∧
    (processed.contains file = false →
        collectGo fs entryDir importsOf 1 (file :: todo) processed = file :: processed) := by
  constructor <;> intro h <;> simp only [collectGo, h, if_true, Bool.false_eq_true, if_false]

/-- Every file is parsed at most once. -/
theorem collect_nodup (fs : FS) (entryDir : Path) (importsOf : Path → List Import)
    (fuel : Nat) (todo processed : List Path) (hn : processed.Nodup) :
    (collectGo fs entryDir importsOf fuel todo processed).Nodup := by
  fun_induction collectGo fs entryDir importsOf fuel todo processed with
  | case1 | case2 => exact hn
  | case3 _ _ _ _ _ ih => exact ih hn
  -- a file met for the first time joins the processed ones
  | case4 _ _ _ _ hc _ ih =>
    exact ih (List.nodup_cons.2 ⟨fun hm => hc (List.contains_iff_mem.2 hm), hn⟩)

/-- Importing a name the module does not export is rejected, for both spellings, whenever the module
was pre-imported under its key. -/
theorem private_rejected (deps : List ModuleExports) (d : ModuleExports) (imp : Import) (items : List String)
    (name : String)
    (hfind : deps.find? (fun x => x.key == "_".intercalate
        (match imp.form with
          | .from_ => imp.segments
          | .module => if imp.segments.length > 1 then imp.segments.dropLast else [])) = some d)
    (hpriv : d.publicNames.contains name = false)
    (hname : (imp.form = .from_ ∧ name ∈ items) ∨
             (imp.form = .module ∧ imp.segments.length > 1 ∧ imp.segments.getLast! = name)) :
    name ∈ rejectedNames deps imp items := by
  unfold rejectedNames
  rcases hname with ⟨hf, hin⟩ | ⟨hf, hl, rfl⟩
  · simp only [hf] at hfind ⊢
    simp only [hfind]
    exact List.mem_filter.2 ⟨hin, by rw [hpriv]; rfl⟩
  · simp only [hf, hl, if_true] at hfind ⊢
    simp only [hfind]
    exact List.mem_filter.2 ⟨List.mem_singleton_self _, by rw [hpriv]; rfl⟩

example : rejectedNames [⟨"m", ["open_"]⟩] ⟨.module, ["m", "secret"], false, 0⟩ [] = ["secret"] := by decide
example : rejectedNames [⟨"m", ["open_"]⟩] ⟨.from_, ["m"], false, 0⟩ ["open_", "secret"] = ["secret"] := by decide

/-- Renaming an import with `as` changes nothing about what is rejected. -/
theorem alias_irrelevant (deps : List ModuleExports) (imp : Import) (items₁ items₂ : List ImportItem)
    (h : items₁.map (·.name) = items₂.map (·.name)) :
    rejectedItems deps imp items₁ = rejectedItems deps imp items₂ :=
  congrArg (rejectedNames deps imp) h

/-- A private name stays rejected under every alias — including an alias that is itself a `pub` name of the module. -/
theorem private_rejected_under_alias (deps : List ModuleExports) (d : ModuleExports) (imp : Import)
    (items : List ImportItem) (it : ImportItem)
    (hform : imp.form = .from_)
    (hfind : deps.find? (fun x => x.key == "_".intercalate imp.segments) = some d)
    (hpriv : d.publicNames.contains it.name = false) (hin : it ∈ items) :
    it.name ∈ rejectedItems deps imp items := by
  apply private_rejected deps d imp _ it.name
  · simpa [hform] using hfind
  · exact hpriv
  · exact Or.inl ⟨hform, List.mem_map.2 ⟨it, hin, rfl⟩⟩

/-- Asking the local names instead lets `from m import secret as open_` through and rejects
`from m import open_ as v` (kernel-checked witnesses for the seeded change C14-5). -/
theorem local_name_check_is_wrong :
    rejectedItemsByLocalName [⟨"m", ["open_"]⟩] ⟨.from_, ["m"], false, 0⟩ [⟨"secret", some "open_"⟩] = []
    ∧ rejectedItems [⟨"m", ["open_"]⟩] ⟨.from_, ["m"], false, 0⟩ [⟨"secret", some "open_"⟩] = ["secret"]
    ∧ rejectedItemsByLocalName [⟨"m", ["open_"]⟩] ⟨.from_, ["m"], false, 0⟩ [⟨"open_", some "v"⟩] = ["v"]
    ∧ rejectedItems [⟨"m", ["open_"]⟩] ⟨.from_, ["m"], false, 0⟩ [⟨"open_", some "v"⟩] = [] := by
  decide

theorem mem_declExports (d : MDecl) (n : String) :
    n ∈ declExports d ↔ d.isPub = true ∧ (n = d.name ∨ (d.kind = .enum_ ∧ n ∈ d.variants)) := by
  unfold declExports
  cases d.isPub <;> cases d.kind <;> simp

/-- A name is exported exactly when a `pub` declaration carries it: its own name, or — for a `pub` enum —
one of its variants.  Nothing of a private declaration is ever exported. -/
theorem exported_iff (ds : List MDecl) (n : String) :
    n ∈ exportedNames ds ↔
      ∃ d ∈ ds, d.isPub = true ∧ (n = d.name ∨ (d.kind = .enum_ ∧ n ∈ d.variants)) := by
  simp only [exportedNames, List.mem_flatMap, mem_declExports]

/-- Importing by name anything a module's private declarations introduce (the declaration itself, or a
variant of a private enum) is rejected, in both spellings. -/
theorem private_decl_rejected (ds : List MDecl) (key name : String) (imp : Import) (items : List String)
    (hkey : "_".intercalate (match imp.form with
          | .from_ => imp.segments
          | .module => if imp.segments.length > 1 then imp.segments.dropLast else []) = key)
    (hnot : ¬ ∃ d ∈ ds, d.isPub = true ∧ (name = d.name ∨ (d.kind = .enum_ ∧ name ∈ d.variants)))
    (hname : (imp.form = .from_ ∧ name ∈ items) ∨
             (imp.form = .module ∧ imp.segments.length > 1 ∧ imp.segments.getLast! = name)) :
    name ∈ rejectedNames [moduleExports key ds] imp items := by
  subst hkey
  -- the table's one entry stands under the key asked for, and `name` is not among its exports
  exact private_rejected _ (moduleExports _ ds) imp items name (List.find?_cons_of_pos (beq_self_eq_true _))
    (Bool.eq_false_iff.2 fun h => hnot ((exported_iff ds name).1 (List.contains_iff_mem.1 h))) hname

/-- A declaration that is not `pub` (and is not a variant of a `pub` enum) stays unknown in the importing file even
when the file imports something else from the module: nothing private leaks through `import_module`. -/
theorem private_unknown_by_bare_name (key : String) (ds : List MDecl) (name : String)
    (hnot : ¬ ∃ d ∈ ds, d.isPub = true ∧ (name = d.name ∨ (d.kind = .enum_ ∧ name ∈ d.variants))) :
    bareKnown [moduleExports key ds] name = false := by
  simp [bareKnown, moduleExports, mt (exported_iff ds name).1 hnot]

/-- … and everything `pub` is known. -/
theorem public_known_by_bare_name (key : String) (ds : List MDecl) (d : MDecl) (hd : d ∈ ds) (hp : d.isPub = true) :
    bareKnown [moduleExports key ds] d.name = true := by
  simp [bareKnown, moduleExports, (exported_iff ds d.name).2 ⟨d, hd, hp, Or.inl rfl⟩]

example : exportedNames [⟨.enum_, "Hidden", false, ["Circle", "Square"]⟩, ⟨.enum_, "Color", true, ["Red"]⟩,
    ⟨.function, "describe", true, []⟩, ⟨.const, "K", false, []⟩] = ["Color", "Red", "describe"] := by decide

end Incan.Imports
