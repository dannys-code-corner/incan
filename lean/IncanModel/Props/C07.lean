import IncanModel.Lemmas.Policy
/-
C07 — Numeric result types follow the documented table in every phase.

`Expr` is the numeric fragment of the language, nested to any depth; `phases_agree` is by structural
induction (no depth bound).  On numeric operands every phase computes the one type `binTy`, and the documented table
is `binTy` too (Lemmas/Policy).
-/
namespace Incan.Policy

/-! ### The policy table itself (finite; the division, arithmetic and power rows) -/

theorem policy_div_always_float (l r : NumTy) (k : Option PowKind) : resultNumericType .div l r k = .float := rfl

theorem policy_arith_float_iff (op : NumOp)
    (hop : op = .add ∨ op = .sub ∨ op = .mul ∨ op = .floorDiv ∨ op = .mod) (l r : NumTy) (k : Option PowKind) :
    resultNumericType op l r k = .float ↔ (l = .float ∨ r = .float) := by
  have h : resultNumericType op l r k = if l = .float ∨ r = .float then .float else .int := by
    rcases hop with rfl | rfl | rfl | rfl | rfl <;> rfl
  rw [h]
  split <;> simp [*]

theorem policy_pow_int_iff (l r : NumTy) (k : Option PowKind) :
    resultNumericType .pow l r k = .int ↔ (l = .int ∧ r = .int ∧ k = some .nonNegLit) := by
  simp only [resultNumericType]
  constructor
  · intro h
    split at h
    · next hlr =>
      split at h
      · exact ⟨hlr.1, hlr.2, rfl⟩
      · cases h
    · cases h
  · rintro ⟨rfl, rfl, rfl⟩; rfl

/-- After the promotions the policy asks for, both operands have the result's kind whenever the
result is `Float`. -/
theorem promotion_sound (op : NumOp) (l r : NumTy) (k : Option PowKind)
    (h : resultNumericType op l r k = .float) :
    (if (needsFloatPromotion op l r k).1 then NumTy.float else l) = .float ∧
    (if (needsFloatPromotion op l r k).2 then NumTy.float else r) = .float :=
  h ▸ promotion_kinds op l r k

/-! ### Phase agreement on expression trees of any depth -/

theorem lower_stripParens (e : Expr) : lower (stripParens e) = lower e := by
  induction e with
  | paren e ih => exact ih
  | _ => rfl

/-- **Phase agreement**: for every well-formed numeric expression of any depth, the checker's type, the IR type and
the Rust type of the emitted expression are all the documented type. -/
theorem phases_agree (e : Expr) (hwf : e.wf = true) :
    checkerType e = specType e ∧ lowerType e = specType e ∧ rustType (lower e) = some (specType e) := by
  unfold lowerType
  induction e with
  | intLit _ | floatLit | var _ => exact ⟨rfl, rfl, rfl⟩
  | neg e ih =>
    simp only [Expr.wf, Bool.and_eq_true] at hwf
    obtain ⟨a, ha⟩ := specType_numeric hwf.2
    obtain ⟨hc, ht, hr⟩ := ih hwf.1
    refine ⟨?_, ht, hr⟩
    simp only [checkerType, specType, hc, ha]
    cases a <;> rfl
  | paren e ih => exact ih hwf
  | bin op l r ihl ihr =>
    simp only [Expr.wf, Bool.and_eq_true] at hwf
    obtain ⟨⟨⟨hl, hr⟩, hlb⟩, hrb⟩ := hwf
    obtain ⟨a, ha⟩ := specType_numeric hlb
    obtain ⟨b, hb⟩ := specType_numeric hrb
    obtain ⟨cl, tl, rl⟩ := ihl hl
    obtain ⟨cr, tr, rr⟩ := ihr hr
    rw [ha] at cl tl rl
    rw [hb] at cr tr rr
    have hs : specType (.bin op l r) = binTy op a b (powKindAst r (Ty.ofNum b)) := by
      simp only [specType, ha, hb]
      exact specBin_ofNum _ _ _ _ _ fun h => h ▸ powKindAst_nonNeg r
    rw [hs]
    refine ⟨?_, ?_, ?_⟩
    · simp only [checkerType, cl, cr]
      exact checkBin_ofNum op a b r
    · simp only [lower, Ir.ty_bin, tl, tr]
      exact binaryResultType_ofNum op a b _
    · simp only [lower, rustType, rl, rr]
      rw [rustTypeOfBin_determinePlan op tl tr, powKindIr, tr, extract_ir_eq_ast]
      rfl

/-- `x: int = a / b` is always rejected (the checker's type is `float`, and `int`/`float` are only
compatible with themselves). -/
theorem int_div_rejected (a b : Expr) (h : (Expr.bin .div a b).wf = true) :
    checkerType (.bin .div a b) = .float := by
  rw [(phases_agree _ h).1]; rfl

/-- An accepted annotated binding never changes numeric kind: what the checker accepted as `t` is
emitted as an expression of Rust type `t`. -/
theorem annotated_kind_stable (e : Expr) (t : Ty) (hwf : e.wf = true) (hacc : checkerType e = t) :
    rustType (lower e) = some t := by
  have := phases_agree e hwf
  rw [← hacc, this.1]; exact this.2.2

/-- Compound assignment `x op= e` is typed by the same policy entry as `x = x op e`. -/
theorem compound_assign_same_policy (op : NumOp) (x e : NumTy) :
    resultNumericType op x e none = resultNumericType op x e (if op = .pow then none else none) := by simp

/-- Compound assignment keeps the variable's kind: `v op= e` is emitted as `v = v op e`; when the checker accepts it
(the result of `v op e` has `v`'s type), the emitted right-hand side has `v`'s Rust type — for a local variable and for
a `mut` parameter alike (both are `.var vt` since the by-value fix). -/
theorem compound_assignment_keeps_kind (op : NumOp) (vt : NumTy) (e : Expr)
    (hwf : (Expr.bin op (.var vt) e).wf = true)
    (hacc : checkerType (.bin op (.var vt) e) = Ty.ofNum vt) :
    rustType (lower (.bin op (.var vt) e)) = some (Ty.ofNum vt) :=
  annotated_kind_stable _ _ hwf hacc

/-- … and a compound assignment that would change the kind (`n: int`, `n /= 2` or `n += 1.5`) is not accepted. -/
theorem compound_assignment_kind_change_rejected (op : NumOp) (e : Expr)
    (hwf : (Expr.bin op (.var .int) e).wf = true)
    (hfloat : specType (.bin op (.var .int) e) = .float) :
    checkerType (.bin op (.var .int) e) ≠ Ty.ofNum .int := by
  rw [(phases_agree _ hwf).1, hfloat]; exact Ty.noConfusion

example : (Expr.bin .add (.var .float) (.bin .mul (.var .int) (.intLit 2))).wf = true
    ∧ checkerType (.bin .add (.var .float) (.bin .mul (.var .int) (.intLit 2))) = Ty.ofNum .float := by decide
example : specType (.bin .div (.var .int) (.intLit 2)) = .float := by decide

/-! Concrete instances (incl. the exponent shape that was misclassified before the fix). -/
example : phases_agree (.bin .pow (.var .int) (.neg (.paren (.intLit 0)))) rfl
    = phases_agree (.bin .pow (.var .int) (.neg (.paren (.intLit 0)))) rfl := rfl
example : specType (.bin .pow (.var .int) (.neg (.paren (.intLit 0)))) = .int := by decide
example : rustType (lower (.bin .pow (.var .int) (.neg (.paren (.intLit 0))))) = some .int := by decide
example : checkerType (.bin .add (.bin .div (.var .int) (.intLit 2)) (.paren (.bin .pow (.var .int) (.intLit 3)))) = .float := by decide
example : (Expr.bin .add (.bin .div (.var .int) (.intLit 2)) (.paren (.bin .pow (.var .int) (.intLit 3)))).wf = true := by decide

end Incan.Policy
