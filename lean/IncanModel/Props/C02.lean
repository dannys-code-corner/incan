import IncanModel.Lemmas.CoreTyping
import IncanModel.Props.C03
/-
C02 — every program that type-checks also builds (core fragment: checker acceptance implies what lowering and
rustc require).  The simulation `Sim` between the checker's scopes and rustc's, and what `declare` does to it, are in
Lemmas/CoreTyping.
-/
namespace Incan.Core

theorem tyE_sim (sigs : String → Option Sig) {c r : Scopes} (h : Sim c r) (e : E) : tyE sigs c e = tyE sigs r e := by
  induction e with
  | int _ | bool _ | str _ | list _ => rfl
  | var x => unfold tyE; rw [h.1 x]
  | neg e ih | not_ e ih | len e ih | call1 _ e ih | paren e ih => unfold tyE; rw [ih]
  | arith _ l r ihl ihr | cmp _ l r ihl ihr | and_ l r ihl ihr | or_ l r ihl ihr | concat l r ihl ihr
  | index l r ihl ihr | call2 _ l r ihl ihr => unfold tyE; rw [ihl, ihr]

/-- The binding statement: checker acceptance (with the outer-type comparison) implies lowering + rustc acceptance.
Three cases.  `x` is in the checker's innermost block: it must be a `mut` of the same type, and rustc re-assigns or
repeats the `let mut` (`Sim.declare_right`).  It is not, and the statement is a plain `x = e` over an outer `mut x`: the
checker notes a shadow entry, rustc assigns (`Sim.declare_left`).  Otherwise both sides declare (`Sim.declare_both`). -/
theorem bind_sim (sigs : String → Option Sig) {c r c' : Scopes} (h : Sim c r) (hc : c ≠ []) (hr : r ≠ [])
    (m : Bool) (x : String) (e : E) (hchk : chkBind true sigs c m x e = some c') :
    ∃ r', rustBind sigs r m x e = some r' ∧ Sim c' r' ∧ c' ≠ [] ∧ r' ≠ [] := by
  unfold chkBind at hchk
  unfold rustBind
  rw [← tyE_sim sigs h e, ← h.1 x]
  split at hchk
  · cases hchk
  next t _ =>
    split at hchk
    next v hl =>
      -- `x` is in the checker's innermost block: it stays as it is, and is mutable of type `t`
      split at hchk <;> cases hchk
      next hv =>
        cases VarInfo.eq_mk hv
        cases m
        · rw [if_neg Bool.false_ne_true, lookupLocal_some_lookupVar hl]
          exact ⟨r, if_pos ⟨rfl, rfl⟩, h, hc, hr⟩
        · rw [if_pos rfl]
          split
          next w hw => cases (h.2 x w hw).symm.trans hl; exact ⟨r, if_pos ⟨rfl, rfl⟩, h, hc, hr⟩
          · exact ⟨_, rfl, h.declare_right hl, hc, declare_ne_nil _ _ _⟩
    next hl =>
      cases m
      · rw [if_neg Bool.false_ne_true] at hchk ⊢
        split at hchk
        next v hv =>
          -- an outer `mut x` of type `t`: the checker notes a shadow entry, rustc assigns
          split at hchk <;> cases hchk
          next hmt =>
            cases VarInfo.eq_mk ⟨hmt.1, hmt.2.resolve_left nofun⟩
            exact ⟨r, if_pos ⟨rfl, rfl⟩, h.declare_left hv, declare_ne_nil _ _ _, hr⟩
        · cases hchk
          exact ⟨_, rfl, h.declare_both .., declare_ne_nil _ _ _, declare_ne_nil _ _ _⟩
      · rw [if_pos rfl] at hchk ⊢
        cases hchk
        split
        next w hw => cases (h.2 x w hw).symm.trans hl
        · exact ⟨_, rfl, h.declare_both .., declare_ne_nil _ _ _, declare_ne_nil _ _ _⟩

-- A statement keeps `Sim` (and non-emptiness) for what follows it; a block returns `Sim` only, since whoever runs a
-- block drops its scopes afterwards; an `else` chain returns acceptance.
mutual
  theorem stmt_sim (sigs : String → Option Sig) (ret : Ty) (s : S) {c r c' : Scopes} (h : Sim c r) (hc : c ≠ []) (hr : r ≠ [])
      (hchk : chkS true sigs ret c s = some c') :
      ∃ r', rustS sigs ret r s = some r' ∧ Sim c' r' ∧ c' ≠ [] ∧ r' ≠ [] := by
    cases s with
    | letS m x e => exact bind_sim sigs h hc hr m x e hchk
    | assign x e => exact bind_sim sigs h hc hr false x e hchk
    | brk | cont => cases hchk; exact ⟨r, rfl, h, hc, hr⟩
    | aug x _ e | append x e =>
      unfold chkS at hchk
      unfold rustS
      rw [← tyE_sim sigs h e, ← h.1 x]
      split at hchk
      · split at hchk
        · next hcond => cases hchk; exact ⟨r, if_pos hcond, h, hc, hr⟩
        · cases hchk
      · cases hchk
    | ret e =>
      unfold chkS at hchk
      unfold rustS
      rw [← tyE_sim sigs h e]
      split at hchk
      · next hcond => cases hchk; exact ⟨r, if_pos hcond, h, hc, hr⟩
      · cases hchk
    | print e | exprS e =>
      unfold chkS at hchk
      unfold rustS
      rw [← tyE_sim sigs h e]
      obtain ⟨t, ht, hcc⟩ := Option.map_eq_some_iff.1 hchk
      cases hcc
      rw [ht]
      exact ⟨r, rfl, h, hc, hr⟩
    | print2 a b =>
      unfold chkS at hchk
      unfold rustS
      rw [← tyE_sim sigs h a, ← tyE_sim sigs h b]
      split at hchk
      · cases hchk; exact ⟨r, rfl, h, hc, hr⟩
      · cases hchk
    | ifS cnd thn els =>
      unfold chkS at hchk
      unfold rustS
      rw [← tyE_sim sigs h cnd]
      split at hchk
      · next hcond =>
        split at hchk
        · next hb helse =>
          cases hchk
          obtain ⟨r1, hr1, _⟩ := block_sim sigs ret thn (h.push_same []) (List.cons_ne_nil _ _) (List.cons_ne_nil _ _) hb
          rw [if_pos hcond, hr1, else_sim sigs ret els h hc hr helse]
          exact ⟨r, rfl, h, hc, hr⟩
        · cases hchk
      · cases hchk
    | whileS _ body | forRange _ _ _ body | forList _ _ body =>
      unfold chkS at hchk
      unfold rustS
      simp only [← tyE_sim sigs h]
      split at hchk
      · next hcond =>
        obtain ⟨c1, hb, hcc⟩ := Option.map_eq_some_iff.1 hchk
        cases hcc
        obtain ⟨r1, hr1, _⟩ := block_sim sigs ret body (h.push_same _) (List.cons_ne_nil _ _) (List.cons_ne_nil _ _) hb
        rw [if_pos hcond, hr1]
        exact ⟨r, rfl, h, hc, hr⟩
      · cases hchk
  theorem block_sim (sigs : String → Option Sig) (ret : Ty) (b : Blk) {c r c' : Scopes} (h : Sim c r) (hc : c ≠ []) (hr : r ≠ [])
      (hchk : chkB true sigs ret c b = some c') :
      ∃ r', rustB sigs ret r b = some r' ∧ Sim c' r' := by
    cases b with
    | nil => cases hchk; exact ⟨r, rfl, h⟩
    | cons s rest =>
      unfold chkB at hchk
      unfold rustB
      cases hs : chkS true sigs ret c s with
      | none => rw [hs] at hchk; cases hchk
      | some c1 =>
        rw [hs] at hchk
        obtain ⟨r1, hr1, hsim1, hc1, hr1ne⟩ := stmt_sim sigs ret s h hc hr hs
        rw [hr1]
        exact block_sim sigs ret rest hsim1 hc1 hr1ne hchk
  theorem else_sim (sigs : String → Option Sig) (ret : Ty) (els : Else) {c r : Scopes} (h : Sim c r) (hc : c ≠ []) (hr : r ≠ [])
      (hchk : chkElse true sigs ret c els = true) : rustElse sigs ret r els = true := by
    cases els with
    | none => rfl
    | else_ body =>
      obtain ⟨c1, hb⟩ := Option.isSome_iff_exists.1 hchk
      obtain ⟨r1, hr1, _⟩ := block_sim sigs ret body (h.push_same []) (List.cons_ne_nil _ _) (List.cons_ne_nil _ _) hb
      unfold rustElse
      rw [hr1]
      rfl
    | elif cnd thn rest =>
      unfold chkElse at hchk
      simp only [Bool.and_eq_true, decide_eq_true_eq, Option.isSome_iff_exists] at hchk
      obtain ⟨⟨hcond, c1, hb⟩, hrest⟩ := hchk
      -- rustc sees `else { if cnd { thn } else { rest } }`: one more empty block scope
      have h1 : Sim c ([] :: r) := h.push_right
      obtain ⟨r1, hr1, _⟩ := block_sim sigs ret thn (h1.push_same []) (List.cons_ne_nil _ _) (List.cons_ne_nil _ _) hb
      unfold rustElse
      rw [← tyE_sim sigs h1 cnd, hcond, hr1, else_sim sigs ret rest h1 hc (List.cons_ne_nil _ _) hrest]
      rfl
end

/-- MAIN (partial: core fragment; the checker taken with the comparison of the assigned type against an
outer variable's type, which the implementation omits — `nested_retype_accepted`).  A function body the checker
accepts is one that lowering turns into Rust that rustc accepts: every `x = e` is an assignment to a `let mut`
of the same type or a fresh `let`, conditions are bool, helper and call operands have the parameter types,
`return` has the declared type — for bodies of any shape and nesting depth, including `elif` chains (which
become nested blocks in Rust). -/
theorem accepted_body_builds_partial (sigs : String → Option Sig) (ret : Ty) (params : List (String × VarInfo)) (body : Blk)
    (c' : Scopes) (hchk : chkB true sigs ret [params] body = some c') :
    (rustB sigs ret [params] body).isSome = true := by
  have hsim : Sim [params] [params] := ⟨fun _ => rfl, fun _ _ hv => hv⟩
  obtain ⟨r', hr', _⟩ := block_sim sigs ret body hsim (List.cons_ne_nil _ _) (List.cons_ne_nil _ _) hchk
  rw [hr']
  rfl

/-- The full statement fails on the implementation as it is: re-assigning an outer `mut x: int` with a string
from a nested block is accepted by the checker model that mirrors it (`strictOuter = false`) and rejected by
rustc's rule. Kernel-checked. -/
theorem nested_retype_accepted :
    let prog : Blk := .cons (.letS true "x" (.int 1)) (.cons (.ifS (.bool true) (.cons (.assign "x" (.str [])) .nil) .none) .nil)
    (chkB false (fun _ => none) .unit [[]] prog).isSome = true ∧ (rustB (fun _ => none) .unit [[]] prog).isSome = false ∧
    (chkB true (fun _ => none) .unit [[]] prog).isSome = false := by
  decide

end Incan.Core

namespace Incan.Checker

/-- MAIN (calls): if the checker reports nothing on a positional call of a callable without default parameters
(no mismatched, surplus or missing argument), the call has exactly one argument per parameter and each argument
has a type its parameter accepts — what rustc demands of the emitted call (E0061 / E0308 cannot occur). -/
theorem accepted_call_is_wellformed (ok : String → String → Bool) (args : List CArg) (ps : List (String × String))
    (h : ∀ a ∈ args, a.name = none)
    (hv : validateArgs ok args ps 0 = []) (hs : surplusArgs args ps = [])
    (hm : missingParams args [] ps (positionalCount args) = []) :
    args.length = ps.length ∧
    ∀ j, (hj : j < ps.length) → (ha : j < args.length) → ok (args[j]).ty (ps[j]).2 = true := by
  have h1 : args.length ≤ ps.length := Nat.le_of_not_lt fun hlt =>
    List.not_mem_nil (hs ▸ surplus_argument_reported args ps h hlt)
  have h2 : ps.length ≤ args.length := Nat.le_of_not_lt fun hlt =>
    List.not_mem_nil (hm ▸ missing_argument_reported args h [] ps args.length hlt (Nat.le_refl _) List.not_mem_nil)
  refine ⟨Nat.le_antisymm h1 h2, fun j hj ha => ?_⟩
  cases hok : ok (args[j]).ty (ps[j]).2 with
  | true => rfl
  | false => exact absurd (hv ▸ wrong_argument_reported ok args ps h j hj ha hok) List.not_mem_nil

/-- Non-vacuity: a fitting two-argument call meets all three premises. -/
example : validateArgs (· == ·) [⟨none, "int"⟩, ⟨none, "str"⟩] [("a", "int"), ("b", "str")] 0 = [] ∧
    surplusArgs [⟨none, "int"⟩, ⟨none, "str"⟩] [("a", "int"), ("b", "str")] = [] ∧
    missingParams [⟨none, "int"⟩, ⟨none, "str"⟩] [] [("a", "int"), ("b", "str")] 2 = [] := by decide

/-- With a default parameter the premises hold for a call rustc refuses (recorded finding
`C02-default-parameter-omitted`): the theorem needs `defaults = []`. -/
example : missingParams [⟨none, "int"⟩] ["b"] [("a", "int"), ("b", "int")] 1 = [] := by decide

end Incan.Checker
