import IncanModel.Lemmas.Cargo
import IncanModel.Tool.Scanners
/-
C15 — The generated Cargo project declares exactly what the code needs, pinned.
-/
namespace Incan.Cargo

/-- No entry of the known-good table is a wildcard (each has an explicit version or a path). -/
theorem table_pinned : ∀ e ∈ knownTable, e.2 ≠ Spec.wildcard := by
  decide

theorem known_pinned (name : String) (spec : Spec) (h : known name = some spec) : spec ≠ .wildcard := by
  obtain ⟨e, hf, rfl⟩ := Option.map_eq_some_iff.1 h
  exact table_pinned e (List.mem_of_find?_eq_some hf)

/-- A crate without a known-good version is refused — the build never continues with it. -/
theorem unknown_refused (imports : List String) (acc : List (String × Spec)) (c : String)
    (hc : c ∈ imports) (hk : known c = none) : ∃ e, addCrates imports acc = .error e := by
  fun_induction addCrates imports acc with
  | case1 => cases hc
  | case2 x xs acc spec hx ih =>
    rcases List.mem_cons.1 hc with rfl | hc'
    · rw [hk] at hx; cases hx
    · exact ih hc'
  | case3 x xs acc hx => exact ⟨x, rfl⟩

theorem addCrates_ok (imports : List String) (acc table : List (String × Spec))
    (h : addCrates imports acc = .ok table) : ∀ e ∈ table, e ∈ acc ∨ known e.1 = some e.2 := by
  fun_induction addCrates imports acc with
  | case1 => cases h; exact fun e he => .inl he
  | case2 x xs acc spec hx ih =>
    intro e he
    rcases ih h e he with h' | h'
    · rcases List.mem_cons.1 h' with rfl | h''
      · exact .inr hx
      · exact .inl (List.mem_filter.1 h'').1
    · exact .inr h'
  | case3 => cases h

/-- Whatever is accepted is pinned: the table built from the imports never contains a wildcard. -/
theorem addCrates_pinned (imports : List String) (acc table : List (String × Spec))
    (hacc : ∀ e ∈ acc, e.2 ≠ .wildcard) (h : addCrates imports acc = .ok table) :
    ∀ e ∈ table, e.2 ≠ .wildcard := fun e he =>
  (addCrates_ok imports acc table h e he).elim (hacc e) (known_pinned e.1 e.2)

theorem fixed_pinned (f : Flags) : ∀ e ∈ fixedDeps f, e.2 ≠ .wildcard := by
  obtain ⟨s, t, a⟩ := f
  cases s <;> cases t <;> cases a <;> decide

/-- **All pinned**: no dependency of the generated manifest is a wildcard. -/
theorem all_pinned (f : Flags) (table : List (Name × Spec)) (ht : ∀ e ∈ table, e.2 ≠ .wildcard) :
    ∀ e ∈ manifestDeps f table, e.2 ≠ .wildcard := by
  intro e he
  rcases mem_manifestDeps.1 he with h | h
  · exact fixed_pinned f e h
  · exact ht e h.1

/-- **Exactly what is needed**: the declared names are the fixed runtime/feature crates plus the
`rust::` crates — every one of them, and nothing else. -/
theorem deps_exact (f : Flags) (table : List (Name × Spec)) (x : Name) :
    x ∈ (manifestDeps f table).map (·.1) ↔ x ∈ (fixedDeps f).map (·.1) ∨ x ∈ table.map (·.1) := by
  rw [manifestDeps, List.map_append, List.mem_append, mem_map_rustDeps]
  by_cases h : x ∈ (fixedDeps f).map (·.1) <;> simp [h]

theorem fixed_names_nodup (f : Flags) : ((fixedDeps f).map (·.1)).Nodup := by
  obtain ⟨s, t, a⟩ := f
  cases s <;> cases t <;> cases a <;> decide

/-- **Valid manifest**: no dependency name is declared twice (a duplicate key is a TOML error). -/
theorem names_nodup (f : Flags) (table : List (Name × Spec)) (hn : (table.map (·.1)).Nodup) :
    ((manifestDeps f table).map (·.1)).Nodup := by
  rw [manifestDeps, List.map_append, List.nodup_append]
  refine ⟨fixed_names_nodup f, ?_, ?_⟩
  · exact ((rustDeps_perm _ table).map _).nodup_iff.2 (hn.sublist (List.filter_sublist.map _))
  · rintro a ha b hb rfl
    exact (mem_map_rustDeps.1 hb).2 ha

example : (fixedDeps ⟨true, false, true⟩).map (·.1) = [n_incan_stdlib, n_incan_derive, n_serde, n_serde_json, n_axum, n_tokio] := by decide

end Incan.Cargo

/-! ### Feature detection reaches every position -/
namespace Incan.Scanners

/-- Both scanners descend through every step of the walker's vocabulary: the path that takes every step is scanned.
Fixed tables, checked by evaluation in the kernel; the two facts share their string literals, which the kernel converts
once per declaration. -/
theorem every_step_followed : scans jsonSteps allSteps = true ∧ scans asyncSteps allSteps = true := by
  decide +kernel

theorem scans_of_subset {followed all path : List String} (hall : scans followed all = true)
    (h : ∀ s ∈ path, s ∈ all) : scans followed path = true :=
  List.all_eq_true.2 fun s hs => List.all_eq_true.1 hall s (h s hs)

theorem scans_filter (l : List String) (p : String → Bool) (path : List String) :
    scans (l.filter p) path = path.all fun s => l.contains s && p s := by
  unfold scans
  congr 1
  funext s
  rw [Bool.eq_iff_iff]
  simp [List.mem_filter]

/-- MAIN (serde detection): a `json_stringify` call at any expression position of a program — in any declaration
that carries code (functions, methods of models / classes / newtypes, trait default methods, const initializers,
field defaults), under any nesting of statements and expressions — is found by the scanner, so `serde` and
`serde_json` are declared. -/
theorem json_trigger_found_everywhere (path : List String) (h : ∀ s ∈ path, s ∈ allSteps) :
    scans jsonSteps path = true :=
  scans_of_subset every_step_followed.1 h

/-- MAIN (async detection): likewise for an `await` / async builtin, so `tokio` is declared. -/
theorem async_trigger_found_everywhere (path : List String) (h : ∀ s ∈ path, s ∈ allSteps) :
    scans asyncSteps path = true :=
  scans_of_subset every_step_followed.2 h

/-- Before the fixes a trigger inside a newtype method (or a chained assignment, an index of an index assignment,
…) was not found: kernel-checked on the scanner as it was (the fourth path is a control: it was found then too). -/
theorem json_trigger_was_missed :
    scans jsonStepsBefore ["Newtype.method", "Return.value"] = false ∧
    scans jsonStepsBefore ["Function.body", "ChainedAssignment.value"] = false ∧
    scans jsonStepsBefore ["Function.body", "IndexAssignment.index", "Call.arg"] = false ∧
    scans jsonStepsBefore ["Function.body", "If.else", "Assignment.value", "Binary.arith.right", "Call.arg"] = true := by
  -- a fixed table, checked by evaluation in the kernel; through `scans_filter` the filtered list is never built
  simp only [jsonStepsBefore, scans_filter]
  decide +kernel

end Incan.Scanners
