import IncanModel.Lemmas.Lsp
/-
C18 — The language server always converges to the latest document text.

`converges`: for every history of didOpen/didChange/didClose notifications over any number of documents
and **every** interleaving of the handlers' store steps (any order, any delay — each handler only has to
start in arrival order and store after it started), once all handlers have finished the stored text of
each document is the payload of the last notification sent for it, and nothing after a close.
-/
namespace Incan.Lsp

theorem converges (h : List Note) (sched : List Step) (hv : Valid h sched) (u : Nat) :
    (runNew h sched).docs u = expected h u :=
  congrFun (runNew_docs hv) u

/-- A handler whose ticket has been superseded never writes: its store step leaves the state as it is (the case "the
newest analysis finished first"). -/
theorem stale_store_is_noop (h : List Note) (s : St) (i : Nat) (n : Note) (p : Nat) (b : Bool)
    (hi : h[i]? = some n) (hk : n.kind = .update p b) (hstale : s.latest n.uri ≠ some i) :
    execNew h s (.store i) = s := by
  rw [execNew_store hi, hk]
  exact if_neg hstale

/-- Schedule independence: whatever order and delay the handlers' store steps run in, the final document
store is the same function of the notification history alone. -/
theorem schedule_independent (h : List Note) (s₁ s₂ : List Step) (h1 : Valid h s₁) (h2 : Valid h s₂) :
    (runNew h s₁).docs = (runNew h s₂).docs :=
  (runNew_docs h1).trans (runNew_docs h2).symm

theorem agrees_with_any_reference_run (h : List Note) (ref sched : List Step) (hr : Valid h ref)
    (hv : Valid h sched) (u : Nat) : (runNew h sched).docs u = (runNew h ref).docs u := by
  rw [schedule_independent h sched ref hv hr]

/-- The sequential schedule: every handler stores before the next notification is received. -/
def seqFrom (k : Nat) : Nat → List Step
  | 0 => []
  | m + 1 => .recv k :: .store k :: seqFrom (k + 1) m

theorem validGo_seq (n k m : Nat) (h : k + m = n) : validGo n (seqFrom k m) k [] = true := by
  induction m generalizing k with
  | zero => simpa [seqFrom, validGo] using h
  | succ m ih =>
    have hk : k < n := by omega
    simpa [seqFrom, validGo, hk] using ih (k + 1) (by omega)

/-- Every history has a valid schedule (so `converges` and `schedule_independent` are never vacuous). -/
theorem sequential_is_valid (h : List Note) : Valid h (seqFrom 0 h.length) :=
  validGo_seq h.length 0 h.length (by omega)

/-- In particular the concurrent server agrees with a sequential one (each handler stores before the next
notification is received), for any schedule that is valid for the same history: every valid schedule ends in the
state the sequential server reaches. -/
theorem agrees_with_sequential (h : List Note) (sched : List Step) (hv : Valid h sched) :
    (runNew h sched).docs = (runNew h (seqFrom 0 h.length)).docs :=
  schedule_independent h sched _ hv (sequential_is_valid h)

/-! ### The protocol before the fix did not converge (kept as kernel-checked counter-examples) -/

/-- open v1; change v2 (slow: it waits on the client channel); change v3 — v2 stores last. -/
def overtakeHistory : List Note :=
  [⟨0, .update 1 true⟩, ⟨0, .update 2 true⟩, ⟨0, .update 3 true⟩]
def overtakeSchedule : List Step :=
  [.recv 0, .store 0, .recv 1, .recv 2, .store 2, .store 1]

theorem old_protocol_stale_overwrite :
    Valid overtakeHistory overtakeSchedule ∧
    (runOld overtakeHistory overtakeSchedule).docs 0 = some 2 ∧ expected overtakeHistory 0 = some 3 := by
  decide

/-- The same schedule under the fixed protocol. -/
example : (runNew overtakeHistory overtakeSchedule).docs 0 = some 3 := by decide

/-- A close overtaken by an analysis still in flight resurrected the document. -/
theorem old_protocol_close_undone :
    Valid [⟨0, .update 1 true⟩, ⟨0, .close⟩] [.recv 0, .recv 1, .store 1, .store 0] ∧
    (runOld [⟨0, .update 1 true⟩, ⟨0, .close⟩] [.recv 0, .recv 1, .store 1, .store 0]).docs 0 = some 1 := by
  decide

/-- Even sequentially: a newest version with a syntax error was never stored. -/
theorem old_protocol_broken_text_not_stored :
    (runOld [⟨0, .update 1 true⟩, ⟨0, .update 2 false⟩] [.recv 0, .store 0, .recv 1, .store 1]).docs 0 = some 1 := by
  decide

/-- Non-vacuity: a valid interleaved schedule over two documents. -/
example : Valid [⟨0, .update 1 true⟩, ⟨1, .update 2 true⟩, ⟨0, .close⟩, ⟨1, .update 4 false⟩]
    [.recv 0, .recv 1, .store 1, .recv 2, .recv 3, .store 3, .store 0, .store 2] := by decide

/-! ### Saves.  The server has no `didSave` handler: a save is not part of the history and changes nothing.  A handler
that re-analyses the *stored* text under a fresh ticket (seed C18-6) and a per-document ticket counter that restarts
after a close (seed C18-5) both break convergence; the witnesses below are kernel-checked. -/

inductive NoteS where
  | update (p : Nat)
  | save
  deriving DecidableEq, Repr

structure StS where
  latest : Option Nat := none
  doc : Option Nat := none
  read : Nat → Option Nat := fun _ => none

/-- One document; a save handler reads the stored payload when it starts, takes a ticket, and stores what it read. -/
def execSave (h : List NoteS) (s : StS) : Step → StS
  | .recv i =>
    match h[i]? with
    | some (.update _) => { s with latest := some i }
    | some .save => { s with latest := some i, read := upd s.read i s.doc }
    | none => s
  | .store i =>
    match h[i]? with
    | some (.update p) => if s.latest = some i then { s with doc := some p } else s
    | some .save => if s.latest = some i then { s with doc := s.read i } else s
    | none => s

/-- update 1, update 2, save: the save reads payload 1 before update 2 stores, takes the newest ticket and writes 1 back
over 2. -/
theorem save_with_ticket_loses_newer_version :
    (([Step.recv 0, .store 0, .recv 1, .recv 2, .store 1, .store 2] : List Step).foldl
      (execSave [.update 1, .update 2, .save]) {}).doc = some 1 := by
  decide

/-- Tickets numbered per document from 0 again after a close: the analysis of the first open (ticket 0, still in
flight) passes the guard of the re-opened document (ticket 0 again) and overwrites its text. -/
def execPerDoc (tickets : List Nat) (h : List Note) (s : St) : Step → St
  | .recv i =>
    match h[i]?, tickets[i]? with
    | some n, some t =>
      (match n.kind with
      | .update _ _ => { s with latest := upd s.latest n.uri (some t) }
      | .close => { s with latest := upd s.latest n.uri none })
    | _, _ => s
  | .store i =>
    match h[i]?, tickets[i]? with
    | some n, some t =>
      (match n.kind with
      | .update p _ => if s.latest n.uri = some t then { s with docs := upd s.docs n.uri (some p) } else s
      | .close => if s.latest n.uri = none then { s with docs := upd s.docs n.uri none } else s)
    | _, _ => s

theorem per_document_tickets_resurrect_old_text :
    let h : List Note := [⟨0, .update 1 true⟩, ⟨0, .close⟩, ⟨0, .update 3 false⟩]
    let sched : List Step := [.recv 0, .recv 1, .store 1, .recv 2, .store 2, .store 0]
    Valid h sched ∧ (sched.foldl (execPerDoc [0, 0, 0] h) St.init).docs 0 = some 1 ∧ expected h 0 = some 3
      ∧ (runNew h sched).docs 0 = some 3 := by
  decide

/-- Dependencies: an importer is analysed against the latest text of an open dependency; the file on disk only
matters while the dependency is closed.  Two configurations with the same editor text give the same analysis,
whatever `analyse` is. -/
theorem open_dependency_overrides_disk {α : Type} (analyse : String → String → α) (importer t d₁ d₂ : String) :
    analyse importer (effectiveText (some t) d₁) = analyse importer (effectiveText (some t) d₂) := rfl

theorem closed_dependency_reads_disk (d : String) : effectiveText none d = d := rfl

end Incan.Lsp
