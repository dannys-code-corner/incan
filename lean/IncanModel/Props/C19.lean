import IncanModel.Lemmas.Pos
/-
C19 — Editor positions and byte offsets convert consistently.

A character-boundary offset of `doc` is `utf8Len pre` for a split `doc = pre ++ post`; every theorem
quantifies over all documents (no length bound) and all such splits / all raw offsets.
-/
namespace Incan.Pos

/-- `line` counts the newlines before the offset; `character` counts the characters after the last one. -/
theorem agrees_with_counting (pre post : List Char) :
    offsetToPosition (pre ++ post) (utf8Len pre) = (pre.count '\n', (lastLine pre).length) := by
  rw [offsetToPosition_boundary, posOf_eq]

/-- Positions are strictly monotone in boundary offsets. -/
theorem strict_mono (pre mid post : List Char) (h : mid ≠ []) :
    Position.lt (offsetToPosition (pre ++ mid ++ post) (utf8Len pre))
                (offsetToPosition (pre ++ mid ++ post) (utf8Len (pre ++ mid))) := by
  rw [offsetToPosition_boundary, List.append_assoc, offsetToPosition_boundary]
  unfold posOf
  rw [posFrom_append]
  cases mid with
  | nil => exact absurd rfl h
  | cons c cs => exact posFrom_lt _ c cs

/-- Two different character boundaries never share a position (offset → position is injective on boundaries). -/
theorem boundary_injective (pre mid post : List Char)
    (h : offsetToPosition (pre ++ mid ++ post) (utf8Len pre) = offsetToPosition (pre ++ mid ++ post) (utf8Len (pre ++ mid))) :
    mid = [] :=
  Decidable.by_contra fun hm => Position.ne_of_lt (strict_mono pre mid post hm) h

/-- Offsets past the end clamp to the end position. -/
theorem past_end_clamps (doc : List Char) (o : Nat) (h : utf8Len doc ≤ o) :
    offsetToPosition doc o = offsetToPosition doc (utf8Len doc) := by
  unfold offsetToPosition
  rw [Nat.min_eq_right h, Nat.min_self]

example : offsetToPosition "a\né😀b".toList 7 = (1, 2) := by decide

/-- offset -> position -> offset is the identity on every character boundary (including end of file). -/
theorem roundtrip (pre post : List Char) :
    positionToOffset (pre ++ post) (offsetToPosition (pre ++ post) (utf8Len pre)) = some (utf8Len pre) := by
  rw [offsetToPosition_boundary]
  exact (p2oGo_boundary pre post 0 0 (0, 0) fun _ _ => rfl).trans (by rw [Nat.zero_add])

theorem p2oGo_bound (cs : List Char) (i line col off : Nat) (pos : Position) (o : Nat)
    (hoff : off ≤ i) (h : p2oGo cs i line col off pos = some o) : o ≤ i + utf8Len cs := by
  -- at the end of the text the answer is `off`; anywhere else it is the running index `i`
  fun_induction p2oGo cs i line col off pos with
  | case1 => cases h; exact hoff
  | case2 => cases h
  | case3 | case4 => cases h; exact Nat.le_add_right ..
  -- the two recursive calls: past a newline on a line other than the one sought (case5), past any other character (case6)
  | case5 | case6 => rename_i ih; exact Nat.add_assoc .. ▸ ih (Nat.le_refl _) h

/-- position → offset never leaves the document: for **every** position (valid or not) and every document, an
answer is a byte offset inside `0 ..= len`. -/
theorem positionToOffset_in_doc (doc : List Char) (pos : Position) (o : Nat)
    (h : positionToOffset doc pos = some o) : o ≤ utf8Len doc := by
  have := p2oGo_bound doc 0 0 0 0 pos o (Nat.le_refl _) h
  rwa [Nat.zero_add] at this

example : positionToOffset "a\né😀b".toList (1, 2) = some 8 := by decide
example : positionToOffset "aé\nb".toList (1, 1) = some 5 ∧ positionToOffset "aé\nb".toList (0, 99) = some 3 := by decide

/-- Ranges are well-formed for **every** pair of raw offsets: empty, reversed, past the end, or
inside a multi-byte character. -/
theorem range_wellformed (doc : List Char) (start stop : Nat) :
    Position.le (spanToRange doc start stop).start (spanToRange doc start stop).stop ∧
    Position.le (spanToRange doc start stop).stop (offsetToPosition doc (utf8Len doc)) := by
  unfold spanToRange
  exact ⟨offsetToPosition_mono doc _ _ (by omega), offsetToPosition_le_end doc _⟩

/-- An empty or reversed span still yields the range of one character (or the end position): start and stop are
positions of offsets `start` and `start + 1`. -/
theorem degenerate_span_range (doc : List Char) (start stop : Nat) (h : stop ≤ start) :
    spanToRange doc start stop = spanToRange doc start (start + 1) := by
  unfold spanToRange
  rw [Nat.max_self, Nat.max_eq_right (Nat.le_succ_of_le h)]

example : spanToRange "ab".toList 5 1 = { start := (0, 2), stop := (0, 2) } := by decide

/-- Terminal line number = editor line + 1, for every raw offset. -/
theorem terminal_line_agrees (doc : List Char) (o : Nat) :
    (getLineInfo doc o).1 = (offsetToPosition doc o).1 + 1 := by
  rw [offsetToPosition_eq]
  obtain ⟨pre, post, rfl, hr⟩ := exists_read doc 0 (min o (utf8Len doc))
  obtain ⟨ls', h, -⟩ := gliGo_start pre post _ hr
  simp only [getLineInfo, h, hr, posOf_eq]
  omega

/-- Terminal column is the **character** length of the line prefix + 1, and the reported text is the line. -/
theorem terminal_col_chars (pre post : List Char) :
    (getLineInfo (pre ++ post) (utf8Len pre)).2.1 = (lastLine pre).length + 1 ∧
    (getLineInfo (pre ++ post) (utf8Len pre)).2.2 = lastLine pre ++ post.takeWhile (· ≠ '\n') := by
  unfold getLineInfo
  rw [utf8Len_append, Nat.min_eq_left (Nat.le_add_right ..)]
  obtain ⟨ls', h1, h2, -⟩ := gliGo_start pre post _ (readBefore_boundary pre post 0 _ (Nat.zero_add _).symm)
  simp only [h1]
  have htext : (lastLine pre ++ post).takeWhile (· ≠ '\n') = lastLine pre ++ post.takeWhile (· ≠ '\n') :=
    List.takeWhile_append_of_pos fun x hx => by
      simp only [decide_eq_true_eq, ne_eq]
      rintro rfl; exact (lastLine_spec pre).1 hx
  refine ⟨?_, htext⟩
  rw [htext, ← h2, charsBefore_eq, readBefore_boundary _ _ _ _ rfl]

/-- MAIN (terminal column): for every document and every character-boundary offset, the column printed in
`file:line:col` is the editor character + 1 — it agrees with counting characters (not bytes). -/
theorem terminal_col_agrees (pre post : List Char) :
    (getLineInfo (pre ++ post) (utf8Len pre)).2.1 = (offsetToPosition (pre ++ post) (utf8Len pre)).2 + 1 := by
  rw [(terminal_col_chars pre post).1, agrees_with_counting]

/-- Before the fix the column was a byte count: after `é` it was 3 where the editor character is 1. -/
theorem old_terminal_col_counted_bytes :
    (getLineInfoBytes ['é', 'x'] 2).2.1 = 3 ∧ (offsetToPosition ['é', 'x'] 2).2 + 1 = 2 ∧
    (getLineInfo ['é', 'x'] 2).2.1 = 2 := by decide

end Incan.Pos
