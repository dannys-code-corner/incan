import IncanModel.Sem.Newtype
/-
C17 — a validated newtype can never hold an invalid value.
-/
namespace Incan.Newtype

/-- Sub-values extracted by projections keep the invariant. -/
theorem Inv.of_nt {hooks hook cur T u} (h : Inv hooks hook cur (.nt T u)) : Inv hooks hook cur u := h.2

/-- Lowered code in which every raw construction `T(arg)` of a validated `T` stands inside `T`'s own methods. -/
def Guarded (hooks : String → Option String) (cur : Option String) : Ir → Prop
  | .lit _ | .var _ | .unsupported => True
  | .raw T a => ((hooks T).isSome = true → cur = some T) ∧ Guarded hooks cur a
  | .checked _ _ a | .wrap a | .fst a | .snd a | .unwrap a | .under a => Guarded hooks cur a
  | .pair a b | .add a b => Guarded hooks cur a ∧ Guarded hooks cur b

theorem lower_guarded (hooks : String → Option String) (cur : Option String) (e : Expr) (hna : NoAlias e) :
    Guarded hooks cur (lower hooks cur e) := by
  induction e with
  | lit _ | var _ | ctorNamed _ _ _ => trivial
  | alias _ _ _ => cases hna
  | ctor T a ih =>
    unfold lower
    split
    · split
      · exact ⟨fun _ => ‹_›, ih hna⟩
      · exact ih hna
    · next hh => exact ⟨fun hT => by simp [hh] at hT, ih hna⟩
  | wrap a ih | fst a ih | snd a ih | unwrap a ih | under a ih => exact ih hna
  | pair a b iha ihb | add a b iha ihb => exact ⟨iha hna.1, ihb hna.2⟩

theorem eval_inv
    (hooks : String → Option String) (hook : String → Val → Option Val) (cur : Option String)
    (env : String → Option Val)
    (henv : ∀ x u, env x = some u → Inv hooks hook cur u)
    (hhook : ∀ T x u, hook T x = some u → Inv hooks hook cur x → Inv hooks hook cur u)
    (ir : Ir) (hir : Guarded hooks cur ir) (v : Val)
    (h : eval hook env ir = .ok v) : Inv hooks hook cur v := by
  fun_induction eval hook env ir generalizing v
  -- where `eval` stops nothing is left to show; in the eleven other branches `v` is the value it builds
  all_goals cases h
  next => trivial                                                       -- lit
  next hx => exact henv _ _ hx                                          -- var
  next ha ih => exact ⟨fun hT hne => absurd (hir.1 hT) hne, ih hir.2 _ ha⟩  -- raw
  next u ha w hw ih => exact ⟨fun _ _ => ⟨u, hw⟩, hhook _ u w hw (ih hir u ha)⟩  -- checked
  next ha _ hb iha ihb => exact ⟨iha hir.1 _ ha, ihb hir.2 _ hb⟩         -- pair
  next u ha ih => exact ih hir u ha                                     -- wrap
  next ha ih => exact (ih hir _ ha).1                                   -- fst
  next ha ih => exact (ih hir _ ha).2                                   -- snd
  next x ha ih => exact ih hir (.wrap x) ha                             -- unwrap
  next ha ih => exact (ih hir _ ha).2                                   -- under
  next => trivial                                                       -- add

/-- MAIN (partial: construction sites of the shape `T(x)`; a type name used as a function value is excluded,
see `alias_bypasses`).  Outside `T`'s own methods every `T` value a lowered expression can produce — at any
depth inside lists, tuples, fields, Option/Result payloads — came out of `T`'s validation hook. -/
theorem construction_validated_partial
    (hooks : String → Option String) (hook : String → Val → Option Val) (cur : Option String)
    (env : String → Option Val)
    (henv : ∀ x u, env x = some u → Inv hooks hook cur u)
    (hhook : ∀ T x u, hook T x = some u → Inv hooks hook cur x → Inv hooks hook cur u)
    (e : Expr) (hna : NoAlias e) (v : Val)
    (h : eval hook env (lower hooks cur e) = .ok v) : Inv hooks hook cur v :=
  eval_inv hooks hook cur env henv hhook _ (lower_guarded hooks cur e hna) v h

/-- With an argument the hook rejects, the construction stops with the validation failure naming the type
and the hook — it does not produce a `T`. -/
theorem rejected_argument_stops
    (hooks : String → Option String) (hook : String → Val → Option Val) (cur : Option String)
    (env : String → Option Val) (T h : String) (a : Expr) (x : Val)
    (hh : hooks T = some h) (hc : cur ≠ some T)
    (ha : eval hook env (lower hooks cur a) = .ok x) (hrej : hook T x = none) :
    eval hook env (lower hooks cur (.ctor T a)) = .error (.validation T h) := by
  simp [lower, hh, hc, eval, ha, hrej]

/-- A failure in the first component of a pair propagates: the pair does not swallow it. -/
theorem failure_propagates_pair
    (hook : String → Val → Option Val) (env : String → Option Val) (a b : Ir) (s : Stop)
    (h : eval hook env a = .error s) : eval hook env (.pair a b) = .error s := by
  simp [eval, h]

/-- The exemption is exactly "inside `T`'s own methods": there the construction is the raw wrap … -/
theorem own_methods_exempt (hooks : String → Option String) (T : String) (a : Expr) :
    lower hooks (some T) (.ctor T a) = .raw T (lower hooks (some T) a) := by
  simp only [lower]
  cases hooks T <;> simp

/-- … and inside any *other* type's methods (or in a function) it is checked. -/
theorem other_methods_checked (hooks : String → Option String) (cur : Option String) (T h : String) (a : Expr)
    (hh : hooks T = some h) (hc : cur ≠ some T) :
    lower hooks cur (.ctor T a) = .checked T h (lower hooks cur a) := by
  simp [lower, hh, hc]

/-- The selected hook is always a declared static method of the right shape. -/
theorem select_sound (d : Decl) (h : String) (hs : selectHook d = some h) :
    ∃ m ∈ d.methods, m.name = h ∧ isCandidate d m = true := by
  unfold selectHook at hs
  simp only at hs
  split at hs
  · next hany =>
    cases hs
    obtain ⟨m, hm, hn⟩ := List.any_eq_true.1 hany
    have := List.mem_filter.1 hm
    exact ⟨m, this.1, by simpa using hn, this.2⟩
  · split at hs
    · next m hm =>
      cases hs
      have : m ∈ d.methods.filter (isCandidate d) := by rw [hm]; simp
      have := List.mem_filter.1 this
      exact ⟨m, this.1, rfl, this.2⟩
    · cases hs

/-- A well-shaped `from_underlying` is always the hook, whatever else is declared. -/
theorem select_from_underlying (d : Decl) (m : Method) (hm : m ∈ d.methods)
    (hc : isCandidate d m = true) (hn : m.name = "from_underlying") :
    selectHook d = some "from_underlying" := by
  unfold selectHook
  simp only
  have : (d.methods.filter (isCandidate d)).any (fun m => m.name == "from_underlying") = true :=
    List.any_eq_true.2 ⟨m, List.mem_filter.2 ⟨hm, hc⟩, by simp [hn]⟩
  simp [this]

/-- A single well-shaped `from_*` is the hook. -/
theorem select_single (d : Decl) (m : Method) (hone : d.methods.filter (isCandidate d) = [m]) :
    selectHook d = some (if m.name = "from_underlying" then "from_underlying" else m.name) := by
  unfold selectHook
  simp only [hone, List.any_cons, List.any_nil, Bool.or_false]
  by_cases h : m.name = "from_underlying" <;> simp [h]

/-- Distinct newtypes are never interchangeable: named types are compatible only with themselves. -/
theorem nominal (a b : String) : namedCompatible a b = true ↔ a = b := by
  simp [namedCompatible]

/-! ### The full statement does not hold: a type name used as a function value -/

def posHooks : String → Option String := fun T => if T == "Pos" then some "from_underlying" else none
def posHook : String → Val → Option Val := fun _ v => match v with
  | .int n => if n ≤ 0 then none else some (.int n)
  | _ => none

/-- `f = Pos; f(-1)`: the hook rejects -1, yet a `Pos` holding -1 is produced. -/
theorem alias_bypasses :
    posHook "Pos" (.int (-1)) = none ∧
    eval posHook (fun _ => none) (lower posHooks none (.alias "Pos" (.lit (-1)))) = .ok (.nt "Pos" (.int (-1))) ∧
    ¬ Inv posHooks posHook none (.nt "Pos" (.int (-1))) := by
  refine ⟨by decide, by rfl, fun h => ?_⟩
  obtain ⟨x, hx⟩ := h.1 (by decide) (by decide)
  -- the hook only ever returns a positive integer
  cases x <;> simp [posHook] at hx
  omega

/-- Non-vacuity: the same site written as `Pos(-1)` stops, and `Pos(5)` yields a validated value. -/
example : eval posHook (fun _ => none) (lower posHooks none (.ctor "Pos" (.lit (-1)))) = .error (.validation "Pos" "from_underlying") := by decide
example : eval posHook (fun _ => none) (lower posHooks none (.wrap (.pair (.ctor "Pos" (.lit 5)) (.lit 2)))) =
    .ok (.wrap (.pair (.nt "Pos" (.int 5)) (.int 2))) := by decide

end Incan.Newtype
