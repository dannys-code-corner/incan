import IncanModel.Lemmas.Num64
/-
C04 — Arithmetic follows the documented Python-style semantics for all operands (integer part).

Every `∀ a b : Int64` below is a real universal quantifier over all 2^128 operand pairs, discharged by
the kernel.
-/
namespace Incan.Num
open Incan.IntDiv

theorem modCore_eq (a b : Int64) (hb : b ≠ 0) :
    modCore a b = .ok (if adj (a % b).toInt b.toInt then a % b + b else a % b) := by
  simp only [modCore, wrappingRem, if_neg hb, bind, Except.bind, pure, Except.pure, apply_ite Except.ok,
    adj_iff]

theorem floorDivCore_eq (a b : Int64) (hb : b ≠ 0) (hov : ¬(a = Int64.minValue ∧ b = -1)) :
    floorDivCore a b = .ok (if adj (a % b).toInt b.toInt then a / b - 1 else a / b) := by
  simp only [floorDivCore, rustDiv, rustRem, if_neg hb, if_neg hov, bind, Except.bind, pure, Except.pure,
    apply_ite Except.ok, adj_iff]

/-- Python's `a % b` is `Int.fmod` (the sign of the divisor); `//`, which is `Int.fdiv`, is `floorDivCore_spec` below. -/
theorem modCore_spec (a b : Int64) (hb : b ≠ 0) :
    ∃ r, modCore a b = .ok r ∧ r.toInt = a.toInt.fmod b.toInt := by
  refine ⟨_, modCore_eq a b hb, ?_⟩
  rw [Ne, eq_zero_iff] at hb
  rw [(fdiv_fmod_of_tdiv_tmod a.toInt b.toInt hb).2, apply_ite Int64.toInt, ← Int64.toInt_mod]
  split
  · exact toInt_add_of_signs _ _ (adj_signs ‹_›)
  · rfl

theorem core_eq_std_mod (a b : Int64) : modCore a b = modStd a b := rfl

/-- The two floor-division kernels, whose bodies differ, are the same function on **all** pairs
(including the panicking ones). -/
theorem core_eq_std_floorDiv (a b : Int64) : floorDivCore a b = floorDivStd a b := by
  unfold floorDivCore floorDivStd rustDiv rustRem
  by_cases hb : b = 0
  · simp [hb, bind, Except.bind]
  by_cases hov : a = Int64.minValue ∧ b = -1
  · simp [hov, bind, Except.bind]
  -- what is left of either body tests the signs of `a % b` and `b`; on integers the two tests are the same
  simp only [hb, hov, if_false, bind, Except.bind, pure, Except.pure, pos_iff, neg_iff, eq_zero_iff]
  rw [eq_zero_iff] at hb
  generalize (a % b).toInt = r, b.toInt = d at hb
  by_cases h0 : r = 0
  · rw [if_pos h0, if_neg (by omega)]
  · rw [if_neg h0]
    by_cases hbp : d > 0
    · rw [if_pos hbp]
      by_cases hr : r < 0
      · rw [if_pos hr, if_pos (.inr ⟨hr, hbp⟩)]
      · rw [if_neg hr, if_neg (by omega)]
    · rw [if_neg hbp]
      by_cases hr : r > 0
      · rw [if_pos hr, if_pos (.inl ⟨hr, by omega⟩)]
      · rw [if_neg hr, if_neg (by omega)]

theorem floorDivCore_spec (a b : Int64) (hb : b ≠ 0) (hov : ¬(a = Int64.minValue ∧ b = -1)) :
    ∃ q, floorDivCore a b = .ok q ∧ q.toInt = a.toInt.fdiv b.toInt := by
  refine ⟨_, floorDivCore_eq a b hb hov, ?_⟩
  rw [Ne, eq_zero_iff] at hb
  have hq := toInt_div_safe a b hov
  rw [(fdiv_fmod_of_tdiv_tmod a.toInt b.toInt hb).1, apply_ite Int64.toInt, ← Int64.toInt_mod, ← hq]
  split
  · have hadj := adj_signs ‹_›
    have hid := Int.tmod_add_mul_tdiv a.toInt b.toInt
    rw [← hq, ← Int64.toInt_mod] at hid
    have ha := toInt_range a
    -- were the quotient `MIN`, `a = r + b * MIN` with `r`, `b` of opposite signs would lie outside `i64`
    refine toInt_sub_one _ (Int.lt_iff_le_and_ne.2 ⟨(toInt_range (a / b)).1, fun hmin => ?_⟩)
    rw [← hmin] at hid
    omega
  · rfl

theorem floorDivStd_spec (a b : Int64) (hb : b ≠ 0) (hov : ¬(a = Int64.minValue ∧ b = -1)) :
    ∃ q, floorDivStd a b = .ok q ∧ q.toInt = a.toInt.fdiv b.toInt := by
  rw [← core_eq_std_floorDiv]; exact floorDivCore_spec a b hb hov

/-- `%` never fails for a non-zero divisor, not even at `(MIN, -1)`, where the result is `0`. -/
theorem mod_min_negOne : modCore Int64.minValue (-1) = .ok 0 := by decide

/-- The excluded point of `//`: the real code panics with Rust's overflow message. -/
theorem floorDiv_min_negOne : floorDivStd Int64.minValue (-1) = .error .divOverflow := by decide

/-- Sign rule and magnitude bound for `%`. -/
theorem mod_sign_and_bound (a b : Int64) (hb : b ≠ 0) :
    ∃ r, modStd a b = .ok r ∧
      (b.toInt > 0 → 0 ≤ r.toInt ∧ r.toInt < b.toInt) ∧
      (b.toInt < 0 → b.toInt < r.toInt ∧ r.toInt ≤ 0) := by
  rw [← core_eq_std_mod]
  obtain ⟨r, h1, h2⟩ := modCore_spec a b hb
  refine ⟨r, h1, ?_, ?_⟩
  · intro hp
    rw [h2]
    exact ⟨Int.fmod_nonneg_of_pos _ hp, Int.fmod_lt_of_pos _ hp⟩
  · intro hn
    rw [h2]
    have := (Int.fdiv_fmod_unique' (a := a.toInt) (q := a.toInt.fdiv b.toInt)
      (r := a.toInt.fmod b.toInt) hn).1 ⟨rfl, rfl⟩
    omega

/-- `a == (a // b) * b + a % b`, in unbounded integers (so nothing wrapped) and hence in `i64`. -/
theorem div_mod_identity (a b : Int64) (hb : b ≠ 0) (hov : ¬(a = Int64.minValue ∧ b = -1)) :
    ∃ q r, floorDivStd a b = .ok q ∧ modStd a b = .ok r ∧
      a.toInt = q.toInt * b.toInt + r.toInt ∧ a = q * b + r := by
  obtain ⟨q, hq1, hq2⟩ := floorDivStd_spec a b hb hov
  rw [← core_eq_std_mod]
  obtain ⟨r, hr1, hr2⟩ := modCore_spec a b hb
  have hI : a.toInt = q.toInt * b.toInt + r.toInt := by
    rw [hq2, hr2, Int.mul_comm]; exact (Int.mul_fdiv_add_fmod _ _).symm
  refine ⟨q, r, hq1, hr1, hI, ?_⟩
  rw [← Int64.toInt_inj, Int64.toInt_add, Int64.toInt_mul, Int.bmod_add_bmod, ← hI]
  exact (Int64.toInt_bmod a).symm

/-- Zero divisor: always exactly the documented error, for both integer entry points. -/
theorem zero_divisor (a : Int64) :
    pyModI64 a 0 = .error .zeroDivision ∧ pyFloorDivI64 a 0 = .error .zeroDivision :=
  ⟨if_pos rfl, if_pos rfl⟩

theorem zeroDivision_message : Panic.zeroDivision.message = "ZeroDivisionError: float division by zero" := rfl

/-- No other failure: with a non-zero divisor the only failing pair is `MIN // -1`. -/
theorem no_other_failure (a b : Int64) (hb : b ≠ 0) :
    (∃ r, pyModI64 a b = .ok r) ∧
    ((¬(a = Int64.minValue ∧ b = -1)) → ∃ q, pyFloorDivI64 a b = .ok q) :=
  ⟨⟨_, (if_neg hb).trans ((core_eq_std_mod a b).symm.trans (modCore_eq a b hb))⟩, fun hov =>
    ⟨_, (if_neg hb).trans ((core_eq_std_floorDiv a b).symm.trans (floorDivCore_eq a b hb hov))⟩⟩

/-! Non-vacuity: concrete operand pairs meeting the hypotheses. -/
example : floorDivStd (-7) 3 = .ok (-3) ∧ modStd (-7) 3 = .ok 2 := by decide
example : floorDivStd 7 (-3) = .ok (-3) ∧ modStd 7 (-3) = .ok (-2) := by decide
example : floorDivStd Int64.minValue 3 = .ok (-3074457345618258603) := by decide
example : floorDivStd Int64.maxValue (-1) = .ok (-9223372036854775807) := by decide
example : (3 : Int64) ≠ 0 ∧ ¬((-7 : Int64) = Int64.minValue ∧ (3 : Int64) = -1) := by decide

end Incan.Num
