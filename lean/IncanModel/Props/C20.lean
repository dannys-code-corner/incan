import IncanModel.Lemmas.ClassChain
import IncanModel.Lemmas.Derive
/-
C20 — derived JSON, equality, ordering and hashing are structural and round-trip.
-/
namespace Incan.Derive

/-! ### JSON round trip -/

-- The list and dict steps stand outside the mutual block, in Lemmas/Derive, and take the element fact as a hypothesis
-- (`roundtripList_of`, `roundtripDict_of`; so do `cmpList_eq_of`, `cmpList_lt_of` for the blocks below): the typed blocks
-- then recurse on the type alone, which Lean recognises as structural.  Naming the argument (`termination_by structural`)
-- and splitting with `cases t` where `match t with` would read the same are there because the blocks check markedly faster so.
mutual
  /-- MAIN: `T.from_json(json_stringify(v))` is `Ok(v)` — for every value of every well-formed type, of any
  nesting depth (lists of models of options of …). -/
  theorem roundtrip (v : Val) (t : Ty) (h : hasTy v t = true) (hw : wfTy t = true) :
      decode t (encode v) = some v := by
    cases t with
    | int => obtain ⟨x, rfl⟩ := hasTy_int h; simp [encode, decode]
    | bool => obtain ⟨x, rfl⟩ := hasTy_bool h; simp [encode, decode]
    | str => obtain ⟨x, rfl⟩ := hasTy_str h; simp [encode, decode]
    | float => obtain ⟨x, rfl⟩ := hasTy_float h; simp [encode, decode]
    | option u =>
      rcases hasTy_option h with rfl | ⟨w, rfl, h'⟩
      · simp [encode, decode]
      · have ⟨hu, hwu⟩ := wfTy_option hw
        rw [encode, decode_option_of_ne_null u (encode_ne_null w u h' hu), roundtrip w u h' hwu, Option.map_some]
    | list u =>
      obtain ⟨xs, rfl, hx⟩ := hasTy_list h
      simp [encode, decode, roundtripList_of u (fun v hv => roundtrip v u hv hw) xs hx]
    | dict u =>
      obtain ⟨xs, rfl, hx⟩ := hasTy_dict h
      simp [encode, decode, roundtripDict_of u (fun v hv => roundtrip v u hv hw) xs hx]
    | struct fts =>
      obtain ⟨fs, rfl, hx⟩ := hasTy_struct h
      simp only [wfTy, Bool.and_eq_true] at hw
      have := roundtripFields fs fts hx hw.1 (encodeFields fs) fun _ _ => lookup_encodeFields hx hw.2
      simp [encode, decode, this]
  termination_by structural t
  theorem roundtripFields (fs : List (List Char × Val)) (fts : List (List Char × Ty))
      (h : fieldsHaveTy fs fts = true) (hw : wfFields fts = true) (kvs : List (List Char × J))
      (hl : ∀ f v, (f, v) ∈ fs → lookup f kvs = some (encode v)) :
      decodeFields fts kvs = some fs := by
    rcases fts with _ | ⟨⟨g, t⟩, fts'⟩
    · rw [fieldsHaveTy_nil h, decodeFields]
    · obtain ⟨v, fs', rfl, hv, hrest⟩ := fieldsHaveTy_cons h
      simp only [wfFields, Bool.and_eq_true] at hw
      have h1 := hl g v (by simp)
      have h2 := roundtrip v t hv hw.1
      have h3 := roundtripFields fs' fts' hrest hw.2 kvs (fun f' v' hm => hl f' v' (List.mem_cons_of_mem _ hm))
      simp [decodeFields, h1, h2, h3]
  termination_by structural fts
end

theorem roundtripList (xs : List Val) (t : Ty) (h : allHaveTy xs t = true) (hw : wfTy t = true) :
    decodeList t (encodeList xs) = some xs :=
  roundtripList_of t (fun v hv => roundtrip v t hv hw) xs h

theorem roundtripDict (kvs : List (List Char × Val)) (t : Ty) (h : dictHasTy kvs t = true) (hw : wfTy t = true) :
    decodeDict t (encodeDict kvs) = some kvs :=
  roundtripDict_of t (fun v hv => roundtrip v t hv hw) kvs h

example : decode (.struct [("a".toList, .int), ("o".toList, .option .int), ("xs".toList, .list .str)])
    (encode (.struct [("a".toList, .int (-3)), ("o".toList, .none_), ("xs".toList, .list [.str "é\"".toList])])) =
    some (.struct [("a".toList, .int (-3)), ("o".toList, .none_), ("xs".toList, .list [.str "é\"".toList])]) := by
  apply roundtrip <;> rfl

/-- The JSON object of a model has exactly the declared field names, in declaration order. -/
theorem json_field_names (fs : List (List Char × Val)) :
    (encodeFields fs).map (·.1) = fs.map (·.1) := by
  induction fs with
  | nil => simp [encodeFields]
  | cons p ps ih => obtain ⟨k, v⟩ := p; simp [encodeFields, ih]

/-- Documented type mapping: the int, bool, str, Option and List rows of the reference table. -/
theorem type_mapping (n : Int) (b : Bool) (s : List Char) (v : Val) (xs : List Val) :
    encode (.int n) = .num n ∧ encode (.bool b) = .bool b ∧ encode (.str s) = .str s ∧
    encode .none_ = .null ∧ encode (.some_ v) = encode v ∧ encode (.list xs) = .arr (encodeList xs) := by
  simp [encode]

/-! ### Equality, ordering, hashing -/

mutual
  /-- `==` holds iff all fields are equal (structurally, at any depth). -/
  theorem eq_iff_structural (a b : Val) : eqV a b = true ↔ a = b := by
    unfold eqV
    cases a <;> cases b
    case some_.some_ x y => simp [eq_iff_structural x]
    case list.list x y => simp [eqList_iff x]
    case dict.dict x y => simp [eqDict_iff x]
    case struct.struct x y => simp [eqFields_iff x]
    -- two leaves of one kind, or two different constructors
    all_goals simp
  termination_by structural a
  theorem eqList_iff (a b : List Val) : eqList a b = true ↔ a = b := by
    unfold eqList
    cases a <;> cases b
    case cons.cons x xs y ys => simp [eq_iff_structural x, eqList_iff xs]
    all_goals simp
  termination_by structural a
  theorem eqDict_iff (a b : List (List Char × Val)) : eqDict a b = true ↔ a = b := by
    unfold eqDict
    rcases a with _ | ⟨⟨k, x⟩, xs⟩ <;> rcases b with _ | ⟨⟨l, y⟩, ys⟩
    case cons.cons => simp [eq_iff_structural x, eqDict_iff xs, and_assoc]
    all_goals simp
  termination_by structural a
  theorem eqFields_iff (a b : List (List Char × Val)) : eqFields a b = true ↔ a = b := by
    unfold eqFields
    rcases a with _ | ⟨⟨k, x⟩, xs⟩ <;> rcases b with _ | ⟨⟨l, y⟩, ys⟩
    case cons.cons => simp [eq_iff_structural x, eqFields_iff xs, and_assoc]
    all_goals simp
  termination_by structural a
end

theorem eqList_refl (xs : List Val) : eqList xs xs = true := (eqList_iff xs xs).2 rfl
theorem eqDict_refl (kvs : List (List Char × Val)) : eqDict kvs kvs = true := (eqDict_iff kvs kvs).2 rfl
theorem eqFields_refl (kvs : List (List Char × Val)) : eqFields kvs kvs = true := (eqFields_iff kvs kvs).2 rfl
theorem eqList_sound (a b : List Val) (h : eqList a b = true) : a = b := (eqList_iff a b).1 h
theorem eqDict_sound (a b : List (List Char × Val)) (h : eqDict a b = true) : a = b := (eqDict_iff a b).1 h
theorem eqFields_sound (a b : List (List Char × Val)) (h : eqFields a b = true) : a = b := (eqFields_iff a b).1 h

/-- Field-wise: two model values are equal exactly when they have the same fields with equal values. -/
theorem eq_fields (k l : List Char) (a b : Val) (as bs : List (List Char × Val)) :
    eqV (.struct ((k, a) :: as)) (.struct ((l, b) :: bs)) = (k == l && eqV a b && eqV (.struct as) (.struct bs)) := by
  rw [eqV, eqFields, eqV]

/-- Equal values feed the hasher the same input: they hash equally (usable as dict/set keys). -/
theorem hash_respects_eq (a b : Val) (h : eqV a b = true) : hashInput a = hashInput b := by
  rw [(eq_iff_structural a b).1 h]

/-- Ordering is lexicographic in declaration order: the first field that differs decides. -/
theorem ord_lexicographic (k l : List Char) (a b : Val) (as bs : List (List Char × Val)) :
    cmpV (.struct ((k, a) :: as)) (.struct ((l, b) :: bs)) =
      (match cmpV a b with | .eq => cmpV (.struct as) (.struct bs) | o => o) := by
  simp only [cmpV, cmpFields]
  rfl

/-! ### The order laws: the leaves from core's `compare`, lists and fields from `Ordering.then` (Lemmas/Derive) -/

/-- Leaf ordering agrees with equality: two ints compare equal exactly when they are the same int. -/
theorem cmpInt_eq_iff (a b : Int) : cmpInt a b = .eq ↔ a = b := by
  rw [cmpInt_eq_compare]; exact Int.compare_eq_eq

/-- `<` on ints is transitive under the derived ordering. -/
theorem cmpInt_lt_trans (a b c : Int) (h1 : cmpInt a b = .lt) (h2 : cmpInt b c = .lt) : cmpInt a c = .lt := by
  rw [cmpInt_eq_compare, Int.compare_eq_lt] at *; exact Int.lt_trans h1 h2

/-- Strings compare equal exactly when they are the same code point sequence. -/
theorem cmpStr_eq_iff (a b : List Char) : cmpStr a b = .eq ↔ a = b := by
  rw [cmpStr_eq_compare, Std.compare_eq_iff_eq, List.map_inj_right fun _ _ => Char.toNat_inj.1]

/-- `<` on strings is transitive (lexicographic by code point). -/
theorem cmpStr_lt_trans (a b c : List Char) (h1 : cmpStr a b = .lt) (h2 : cmpStr b c = .lt) : cmpStr a c = .lt := by
  rw [cmpStr_eq_compare] at *; exact Std.TransCmp.lt_trans h1 h2

theorem swap_eq_iff (o : Ordering) : o.swap = .eq ↔ o = .eq := Ordering.swap_eq_eq

mutual
  /-- Derived ordering is antisymmetric in the strong sense: swapping the operands swaps the verdict (`a < b` iff
  `b > a`, equal iff equal), at any nesting depth. -/
  theorem cmpV_swap (a b : Val) : cmpV b a = (cmpV a b).swap := by
    cases a <;> cases b
    case int.int x y => exact cmpInt_swap x y
    case bool.bool => exact cmpInt_swap ..
    case str.str x y => exact cmpStr_swap x y
    case some_.some_ x y => exact cmpV_swap x y
    case list.list x y => exact cmpList_swap x y
    case struct.struct x y => exact cmpFields_swap x y
    -- every other pair (two constructors, or two floats, dicts or `None`s) computes on both sides
    all_goals rfl
  termination_by structural a
  theorem cmpList_swap (a b : List Val) : cmpList b a = (cmpList a b).swap := by
    cases a <;> cases b
    iterate 3 rfl
    rw [cmpList_cons, cmpList_cons, cmpV_swap, cmpList_swap, Ordering.swap_then]
  termination_by structural a
  theorem cmpFields_swap (a b : List (List Char × Val)) : cmpFields b a = (cmpFields a b).swap := by
    cases a <;> cases b
    iterate 3 rfl
    rw [cmpFields_cons, cmpFields_cons, cmpV_swap, cmpFields_swap, Ordering.swap_then]
  termination_by structural a
end

/-- `a < b` exactly when `b > a`. -/
theorem lt_iff_gt (a b : Val) : cmpV a b = .lt ↔ cmpV b a = .gt := by
  rw [cmpV_swap a b, Ordering.swap_eq_gt]

/-- Equal values compare equal (ordering is consistent with `==`). -/
theorem cmpV_refl_of_eq (a : Val) : cmpV a a = .eq := Ordering.eq_eq_of_eq_swap (cmpV_swap a a)

/-! ### Derived `Ord` is consistent with derived `Eq` -/

mutual
  /-- Field types for which `@derive(Ord)` compiles: no float and no dict anywhere inside. -/
  def ordTy : Ty → Bool
    | .int => true
    | .bool => true
    | .str => true
    | .float => false
    | .option t => ordTy t
    | .list t => ordTy t
    | .dict _ => false
    | .struct fts => ordFieldTys fts
  def ordFieldTys : List (List Char × Ty) → Bool
    | [] => true
    | (_, t) :: r => ordTy t && ordFieldTys r
end

mutual
  /-- Derived `Ord` is consistent with derived `Eq` at every depth: two values of one orderable type that compare
  `Equal` are the same value (so sorting and `BTreeMap` keys never conflate distinct values). -/
  theorem cmpV_eq_imp_eq (a b : Val) (t : Ty) (ha : hasTy a t = true) (hb : hasTy b t = true) (ho : ordTy t = true)
      (h : cmpV a b = .eq) : a = b := by
    cases t with
    | int =>
      obtain ⟨x, rfl⟩ := hasTy_int ha; obtain ⟨y, rfl⟩ := hasTy_int hb
      rw [(cmpInt_eq_iff x y).1 h]
    | bool =>
      obtain ⟨x, rfl⟩ := hasTy_bool ha; obtain ⟨y, rfl⟩ := hasTy_bool hb
      have := (cmpInt_eq_iff _ _).1 h
      cases x <;> cases y <;> simp at this ⊢
    | str =>
      obtain ⟨x, rfl⟩ := hasTy_str ha; obtain ⟨y, rfl⟩ := hasTy_str hb
      rw [(cmpStr_eq_iff x y).1 h]
    | float | dict _ => cases ho
    | option u =>
      rcases hasTy_option ha with rfl | ⟨x, rfl, hx⟩ <;> rcases hasTy_option hb with rfl | ⟨y, rfl, hy⟩
      · rfl
      · cases h
      · cases h
      · rw [cmpV_eq_imp_eq x y u hx hy ho h]
    | list u =>
      obtain ⟨xs, rfl, hx⟩ := hasTy_list ha; obtain ⟨ys, rfl, hy⟩ := hasTy_list hb
      rw [cmpList_eq_of u (fun a b ha hb => cmpV_eq_imp_eq a b u ha hb ho) xs ys hx hy h]
    | struct fts =>
      obtain ⟨xs, rfl, hx⟩ := hasTy_struct ha; obtain ⟨ys, rfl, hy⟩ := hasTy_struct hb
      rw [cmpFields_eq_imp_eq xs ys fts hx hy ho h]
  termination_by structural t
  theorem cmpFields_eq_imp_eq (a b : List (List Char × Val)) (fts : List (List Char × Ty))
      (ha : fieldsHaveTy a fts = true) (hb : fieldsHaveTy b fts = true)
      (ho : ordFieldTys fts = true) (h : cmpFields a b = .eq) : a = b := by
    rcases fts with _ | ⟨⟨g, t⟩, r⟩
    · rw [fieldsHaveTy_nil ha, fieldsHaveTy_nil hb]
    · obtain ⟨x, xs, rfl, hx, hxs⟩ := fieldsHaveTy_cons ha
      obtain ⟨y, ys, rfl, hy, hys⟩ := fieldsHaveTy_cons hb
      simp only [ordFieldTys, Bool.and_eq_true] at ho
      rw [cmpFields_cons, Ordering.then_eq_eq] at h
      rw [cmpV_eq_imp_eq x y t hx hy ho.1 h.1, cmpFields_eq_imp_eq xs ys r hxs hys ho.2 h.2]
  termination_by structural fts
end

theorem cmpList_eq_imp_eq (a b : List Val) (t : Ty) (ha : allHaveTy a t = true) (hb : allHaveTy b t = true)
    (ho : ordTy t = true) (h : cmpList a b = .eq) : a = b :=
  cmpList_eq_of t (fun a b ha hb => cmpV_eq_imp_eq a b t ha hb ho) a b ha hb h

/-- Non-vacuity: a nested orderable value meets the hypotheses. -/
example : hasTy (.struct [(['a'], .int 1), (['o'], .some_ (.str ['x'])), (['l'], .list [.bool true])])
    (.struct [(['a'], .int), (['o'], .option .str), (['l'], .list .bool)]) = true
  ∧ ordTy (.struct [(['a'], .int), (['o'], .option .str), (['l'], .list .bool)]) = true := by decide

/-! ### Derived `<` is transitive -/

mutual
  /-- Derived `<` is transitive at every depth on values of one orderable type (with `cmpV_swap` and
  `cmpV_eq_imp_eq`: a strict total order, which is what `sorted`, `min`/`max` and ordered containers need). -/
  theorem cmpV_lt_trans (a b c : Val) (t : Ty) (ha : hasTy a t = true) (hb : hasTy b t = true) (hc : hasTy c t = true)
      (ho : ordTy t = true) (h1 : cmpV a b = .lt) (h2 : cmpV b c = .lt) : cmpV a c = .lt := by
    cases t with
    | int =>
      obtain ⟨x, rfl⟩ := hasTy_int ha; obtain ⟨y, rfl⟩ := hasTy_int hb; obtain ⟨z, rfl⟩ := hasTy_int hc
      exact cmpInt_lt_trans _ _ _ h1 h2
    | bool =>
      obtain ⟨x, rfl⟩ := hasTy_bool ha; obtain ⟨y, rfl⟩ := hasTy_bool hb; obtain ⟨z, rfl⟩ := hasTy_bool hc
      exact cmpInt_lt_trans _ _ _ h1 h2
    | str =>
      obtain ⟨x, rfl⟩ := hasTy_str ha; obtain ⟨y, rfl⟩ := hasTy_str hb; obtain ⟨z, rfl⟩ := hasTy_str hc
      exact cmpStr_lt_trans _ _ _ h1 h2
    | float | dict _ => cases ho
    | option u =>
      rcases hasTy_option hb with rfl | ⟨y, rfl, hy⟩
      · rcases hasTy_option ha with rfl | ⟨x, rfl, _⟩ <;> cases h1  -- nothing is below `none`
      · rcases hasTy_option hc with rfl | ⟨z, rfl, hz⟩
        · cases h2  -- `some` is not below `none`
        · rcases hasTy_option ha with rfl | ⟨x, rfl, hx⟩
          · rfl  -- `none` is below `some`
          · exact cmpV_lt_trans x y z u hx hy hz ho h1 h2
    | list u =>
      obtain ⟨xs, rfl, hx⟩ := hasTy_list ha; obtain ⟨ys, rfl, hy⟩ := hasTy_list hb
      obtain ⟨zs, rfl, hz⟩ := hasTy_list hc
      exact cmpList_lt_of u (fun a b ha hb => cmpV_eq_imp_eq a b u ha hb ho)
        (fun a b c ha hb hc => cmpV_lt_trans a b c u ha hb hc ho) xs ys zs hx hy hz h1 h2
    | struct fts =>
      obtain ⟨xs, rfl, hx⟩ := hasTy_struct ha; obtain ⟨ys, rfl, hy⟩ := hasTy_struct hb
      obtain ⟨zs, rfl, hz⟩ := hasTy_struct hc
      exact cmpFields_lt_trans xs ys zs fts hx hy hz ho h1 h2
  termination_by structural t
  theorem cmpFields_lt_trans (a b c : List (List Char × Val)) (fts : List (List Char × Ty))
      (ha : fieldsHaveTy a fts = true) (hb : fieldsHaveTy b fts = true) (hc : fieldsHaveTy c fts = true)
      (ho : ordFieldTys fts = true) (h1 : cmpFields a b = .lt) (h2 : cmpFields b c = .lt) :
      cmpFields a c = .lt := by
    rcases fts with _ | ⟨⟨g, t⟩, r⟩
    · rw [fieldsHaveTy_nil ha, fieldsHaveTy_nil hb] at h1; cases h1
    · obtain ⟨x, xs, rfl, hx, hxs⟩ := fieldsHaveTy_cons ha
      obtain ⟨y, ys, rfl, hy, hys⟩ := fieldsHaveTy_cons hb
      obtain ⟨z, zs, rfl, hz, hzs⟩ := fieldsHaveTy_cons hc
      simp only [ordFieldTys, Bool.and_eq_true] at ho
      rw [cmpFields_cons] at h1 h2 ⊢
      exact then_lt_trans (cmpV_lt_trans x y z t hx hy hz ho.1) (fun e => by rw [cmpV_eq_imp_eq x y t hx hy ho.1 e])
        (fun e => by rw [cmpV_eq_imp_eq y z t hy hz ho.1 e]) (cmpFields_lt_trans xs ys zs r hxs hys hzs ho.2) h1 h2
  termination_by structural fts
end

theorem cmpList_lt_trans (a b c : List Val) (t : Ty) (ha : allHaveTy a t = true) (hb : allHaveTy b t = true)
    (hc : allHaveTy c t = true) (ho : ordTy t = true) (h1 : cmpList a b = .lt) (h2 : cmpList b c = .lt) :
    cmpList a c = .lt :=
  cmpList_lt_of t (fun a b ha hb => cmpV_eq_imp_eq a b t ha hb ho)
    (fun a b c ha hb hc => cmpV_lt_trans a b c t ha hb hc ho) a b c ha hb hc h1 h2

/-- Non-vacuity: three nested values of one orderable type in strictly increasing order. -/
example : cmpV (.struct [(['a'], .int 1), (['o'], .none_)]) (.struct [(['a'], .int 1), (['o'], .some_ (.str ['x']))]) = .lt
  ∧ cmpV (.struct [(['a'], .int 1), (['o'], .some_ (.str ['x']))]) (.struct [(['a'], .int 2), (['o'], .none_)]) = .lt := by decide

/-! ### Corollaries: trichotomy, `>` transitive, hashing agrees with ordering -/

/-- `>` is transitive too (by `cmpV_swap`). -/
theorem cmpV_gt_trans (a b c : Val) (t : Ty) (ha : hasTy a t = true) (hb : hasTy b t = true) (hc : hasTy c t = true)
    (ho : ordTy t = true) (h1 : cmpV a b = .gt) (h2 : cmpV b c = .gt) : cmpV a c = .gt :=
  (lt_iff_gt c a).mp (cmpV_lt_trans c b a t hc hb ha ho ((lt_iff_gt c b).mpr h2) ((lt_iff_gt b a).mpr h1))

/-- Trichotomy: exactly one of `a < b`, `a == b`, `a > b` holds for values of one orderable type. -/
theorem cmpV_trichotomy (a b : Val) (t : Ty) (ha : hasTy a t = true) (hb : hasTy b t = true) (ho : ordTy t = true) :
    (cmpV a b = .lt ∧ a ≠ b) ∨ (cmpV a b = .eq ∧ a = b) ∨ (cmpV a b = .gt ∧ a ≠ b) := by
  have hne : cmpV a b ≠ .eq → a ≠ b := fun h e => h (e ▸ cmpV_refl_of_eq a)
  cases h : cmpV a b with
  | lt => exact .inl ⟨rfl, hne (Ordering.ne_eq_of_eq_lt h)⟩
  | eq => exact .inr (.inl ⟨rfl, cmpV_eq_imp_eq a b t ha hb ho h⟩)
  | gt => exact .inr (.inr ⟨rfl, hne (Ordering.ne_eq_of_eq_gt h)⟩)

/-- Values that compare `Equal` hash equally (ordered and hashed containers agree on which keys are the same). -/
theorem ord_eq_hash_eq (a b : Val) (t : Ty) (ha : hasTy a t = true) (hb : hasTy b t = true) (ho : ordTy t = true)
    (h : cmpV a b = .eq) : hashInput a = hashInput b := by
  rw [cmpV_eq_imp_eq a b t ha hb ho h]

/-- The six comparison operators are determined by `cmpV`, so `a <= b` iff `not (a > b)` and `a < b or a == b`. -/
theorem le_iff_lt_or_eq (a b : Val) (t : Ty) (ha : hasTy a t = true) (hb : hasTy b t = true) (ho : ordTy t = true) :
    cmpV a b ≠ .gt ↔ (cmpV a b = .lt ∨ a = b) := by
  rcases cmpV_trichotomy a b t ha hb ho with ⟨h, e⟩ | ⟨h, e⟩ | ⟨h, e⟩ <;> rw [h] <;> simp [e]

/-! ### Derive lists -/

/-- The derive list the compiler emits always satisfies rustc's supertrait requirements, whatever subset of
the documented derives the user wrote (stated for the order Eq, PartialEq, Ord, PartialOrd, Hash, Serialize,
Deserialize, Copy; `structDerives_accepted`, from which it follows, holds for any names in any order). -/
theorem derives_closed (eq peq ord pord hash ser de copy : Bool) :
    let written := (if eq then ["Eq"] else []) ++ (if peq then ["PartialEq"] else []) ++ (if ord then ["Ord"] else []) ++
      (if pord then ["PartialOrd"] else []) ++ (if hash then ["Hash"] else []) ++ (if ser then ["Serialize"] else []) ++
      (if de then ["Deserialize"] else []) ++ (if copy then ["Copy"] else [])
    deriveListAccepted (structDerives written) = true :=
  structDerives_accepted _

/-- Whatever the user wrote is kept (nothing is dropped from the derive list). -/
theorem derives_kept (written : List String) (d : String) (h : d ∈ written) : d ∈ structDerives written := by
  simp only [structDerives, extractDerives, mem_addIfMissing, mem_ordStep, mem_partialOrdStep, mem_eqStep]
  simp [h]

/-! ### Class chains: inherited fields keep declaration order (the theorems on method overriding: Props/C01) -/

/-- MAIN (field order): in a chain `C0 <- C1 <- … <- Cn` of classes with distinct names, the struct emitted for
every `Ci` lists the fields of `C0`, then `C1`, …, then its own: the declaration order that derived `Ord` compares
in and that `json_stringify` writes. -/
theorem chain_fields_in_declaration_order (levels : List (String × Fields))
    (hnd : (levels.map (·.1)).Nodup) (i : Nat) (hi : i < levels.length) :
    classFields (chainDecls levels none) ⟨(levels[i]).1, parentOf levels none i, (levels[i]).2⟩
      = (levels.take (i + 1)).flatMap (·.2) := by
  -- both sides end in the class's own fields; before them stands what the parent, if there is one, has collected
  rw [classFields, List.take_succ_eq_append_getElem hi, List.flatMap_append, List.flatMap_singleton]
  cases i with
  | zero => rfl
  | succ j =>
    have hj : j < levels.length := Nat.lt_of_succ_lt hi
    simp only [parentOf, List.getElem?_eq_getElem hj, Option.map_some]
    rw [inherited_chain levels hnd j hj _ (chainDecls_length levels none ▸ hj)]

/-- and the declaration the lowering finds for `Ci` is that one. -/
theorem chain_lookup (levels : List (String × Fields)) (hnd : (levels.map (·.1)).Nodup)
    (i : Nat) (hi : i < levels.length) :
    findDecl (chainDecls levels none) (levels[i]).1 = some ⟨(levels[i]).1, parentOf levels none i, (levels[i]).2⟩ :=
  findDecl_chain levels none hnd i hi

example : classFields (chainDecls [("Base", [(['a'], Ty.int)]), ("Mid", [(['b'], .int)]), ("Leaf", [(['c'], .int)])] none)
    ⟨"Leaf", some "Mid", [(['c'], .int)]⟩ = [(['a'], .int), (['b'], .int), (['c'], .int)] := by
  simp [classFields, chainDecls, inheritedFields, findDecl]

example : dispatch (inheritedMethods (chainDecls [("Animal", ["speak", "name"]), ("Dog", ["speak"])] none) 2 "Dog") "speak"
    = some "Dog" := by decide
example : dispatch (inheritedMethods (chainDecls [("Animal", ["speak", "name"]), ("Dog", ["speak"])] none) 2 "Dog") "name"
    = some "Animal" := by decide

end Incan.Derive
