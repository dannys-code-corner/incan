import IncanModel.Lemmas.Ladder
import IncanModel.Lemmas.Literals
/-
C08 — Formatting never changes what a program means: the expression ladder.

`roundtrip`: for every expression tree the parser can produce (any shape, any nesting depth, all 20
binary operators incl. the two-token `not in`, the three prefix operators, `?`, indexing, explicit
parentheses), parsing the formatter's output gives back exactly that tree — grouping, associativity
and operand order are preserved although the formatter never adds a parenthesis.  The statement is at
token level; turning the printed text into tokens is the lexer's job and is covered by the
correspondence check.
-/
namespace Incan.Ladder

/-- What is proved for each producible tree at each level: the round trip, and at the levels with a loop
that parsing `fmt e` and then looping equals looping with `e` as the accumulated left operand. -/
structure Mot (k : Nat) (e : Expr) : Prop where
  here : ∀ rest, NoCont k rest → Parses k (fmt e ++ rest) (e, rest)
  loop : kind k = .leftAssoc → ∀ rest R, NoCont (k + 1) rest → Loops k e rest R → Parses k (fmt e ++ rest) R
  post : k = 9 → ∀ rest R, PostLoops e rest R → Parses 9 (fmt e ++ rest) R

theorem mot_of_loop {k : Nat} {e : Expr} (hk : kind k = .leftAssoc)
    (hL : ∀ rest R, NoCont (k + 1) rest → Loops k e rest R → Parses k (fmt e ++ rest) R) : Mot k e :=
  ⟨fun rest hn => hL rest _ (hn.mono (Nat.le_succ k)) (step_loop_none (matchBin_none hn)),
   fun _ => hL, fun h => by subst h; cases hk⟩

theorem mot_of_post {e : Expr} (hP : ∀ rest R, PostLoops e rest R → Parses 9 (fmt e ++ rest) R) : Mot 9 e :=
  ⟨fun rest hn => hP rest _ (postLoop_done hn), nofun, fun _ => hP⟩

theorem mot_plain {k : Nat} {e : Expr} {K : Kind} (hk : kind k = K) (hK : K ≠ .leftAssoc ∧ K ≠ .postfix)
    (h : ∀ rest, NoCont k rest → Parses k (fmt e ++ rest) (e, rest)) : Mot k e :=
  ⟨h, fun hh => absurd (hk.symm.trans hh) hK.1, fun hh => by subst hh; exact absurd hk.symm hK.2⟩

theorem kind_lt_ten : ∀ k < 10, kind k ≠ .primary ∧ (kind k = .postfix → k = 9) := by decide

/-- Passing from level `k+1` down to level `k` (the `up` rule), by the shape of level `k`. -/
theorem mot_up {k : Nat} {e : Expr} (hk10 : k < 10) (hw : WL (k + 1) e) (ih : Mot (k + 1) e) : Mot k e := by
  have h1 := fun rest (hn : NoCont k rest) => ih.here rest (hn.mono (Nat.le_succ k))
  cases hk : kind k with
  | leftAssoc => exact mot_of_loop hk fun rest R hn hl => step_left hk (ih.here rest hn) hl
  | rightAssoc =>
    exact mot_plain hk ⟨nofun, nofun⟩ fun rest hn => step_right_none hk (h1 rest hn) (matchBin_none hn)
  | nonAssoc =>
    exact mot_plain hk ⟨nofun, nofun⟩ fun rest hn => step_non_none hk (h1 rest hn) (matchBin_none hn)
  | «prefix» =>
    exact mot_plain hk ⟨nofun, nofun⟩ fun rest hn => step_pre_none hk (matchPre_none_of_level hw rest) (h1 rest hn)
  | «postfix» =>
    obtain rfl := (kind_lt_ten k hk10).2 hk
    exact mot_of_post fun rest R hp => step_post hk (ih.here rest (noCont_ten rest)) hp
  | primary => exact absurd hk (kind_lt_ten k hk10).1

theorem mot_all {k : Nat} {e : Expr} (h : WL k e) : Mot k e := by
  induction h with
  | up hk hw ih => exact mot_up hk hw ih
  | atom a => exact mot_plain (k := 10) rfl ⟨nofun, nofun⟩ fun rest _ => prim_atom rfl a rest
  | @paren e _ ih =>
    refine mot_plain (k := 10) rfl ⟨nofun, nofun⟩ fun rest _ => ?_
    simp only [fmt, List.cons_append, List.append_assoc, List.nil_append]
    exact prim_paren rfl (ih.here _ (noCont_of_none rfl rest))
  | @pre op e _ ih =>
    have hk : kind (popLevel op) = .prefix := by cases op <;> rfl
    exact mot_plain hk ⟨nofun, nofun⟩ fun rest hn => step_pre_some hk (matchPre_pop op _) (ih.here rest hn)
  | @binLeft op l r hk _ _ ihl ihr =>
    refine mot_of_loop hk fun rest R hn hl => ?_
    simp only [fmt, List.append_assoc]
    exact ihl.loop hk _ R (noCont_bop op _) (step_loop_some (matchBin_bop op _) (ihr.here rest hn) hl)
  | @binRight op l r hk _ _ ihl ihr =>
    refine mot_plain hk ⟨nofun, nofun⟩ fun rest hn => ?_
    simp only [fmt, List.append_assoc]
    exact step_right_some hk (ihl.here _ (noCont_bop op _)) (matchBin_bop op _) (ihr.here rest hn)
  | @binNon op l r hk _ _ ihl ihr =>
    refine mot_plain hk ⟨nofun, nofun⟩ fun rest hn => ?_
    simp only [fmt, List.append_assoc]
    exact step_non_some hk (ihl.here _ (noCont_bop op _)) (matchBin_bop op _) (ihr.here rest (hn.mono (Nat.le_succ _)))
  | @try_ e _ ih =>
    refine mot_of_post fun rest R hp => ?_
    simp only [fmt, List.append_assoc, List.cons_append, List.nil_append]
    exact ih.post rfl _ R (postLoop_quest hp)
  | @index e i _ _ ihe ihi =>
    refine mot_of_post fun rest R hp => ?_
    simp only [fmt, List.append_assoc, List.cons_append, List.nil_append]
    exact ihe.post rfl _ R (postLoop_index (ihi.here _ (noCont_of_none rfl rest)) hp)

/-- The ladder theorem: at every level `k`, parsing the printed form of a tree producible at that level gives
the tree back and stops at `rest`, provided `rest` starts with nothing that level `k` or a higher one would
consume. -/
theorem parse_fmt {k : Nat} {e : Expr} (h : WL k e) {rest : List Tok} (hn : NoCont k rest) :
    Parses k (fmt e ++ rest) (e, rest) :=
  (mot_all h).here rest hn

/-- **Round trip**: parsing the formatter's output of any producible expression gives back the same
tree, with nothing left over — for every sufficiently large fuel (the parser terminates). -/
theorem roundtrip (e : Expr) (h : WL 0 e) : ∃ f0, ∀ f, f0 ≤ f → parse f 0 (fmt e) = some (e, []) := by
  have := parse_fmt h noCont_nil
  rwa [List.append_nil] at this

/-- The same inside parentheses: the `)` that follows, and what comes after it, is left untouched. -/
theorem roundtrip_in_parens (e : Expr) (h : WL 0 e) (rest : List Tok) :
    ∃ f0, ∀ f, f0 ≤ f → parse f 0 (fmt e ++ .rparen :: rest) = some (e, .rparen :: rest) :=
  parse_fmt h (noCont_of_none rfl rest)

/-- Consequently the formatter is injective on producible trees: two different expressions are never
printed as the same token sequence (no meaning is lost). -/
theorem fmt_injective (e₁ e₂ : Expr) (h₁ : WL 0 e₁) (h₂ : WL 0 e₂) (h : fmt e₁ = fmt e₂) : e₁ = e₂ := by
  have h₁ := roundtrip e₁ h₁
  rw [h] at h₁
  exact (Prod.mk.inj (Conv.unique h₁ (roundtrip e₂ h₂))).1

/-- `(1 + 2) * (3 - 4)`: producible, and it round-trips with its parentheses. -/
example : parse 40 0 (fmt (.bin .mul (.paren (.bin .add (.atom 1) (.atom 2))) (.paren (.bin .sub (.atom 3) (.atom 4)))))
    = some (.bin .mul (.paren (.bin .add (.atom 1) (.atom 2))) (.paren (.bin .sub (.atom 3) (.atom 4))), []) := by decide

/-- Without the `Paren` nodes the tree `(1 + 2) * 3` is *not* producible and would print as `1 + 2 * 3`,
which parses differently: the hypothesis `WL` is what the parser guarantees, not a convenience. -/
example : parse 40 0 (fmt (.bin .mul (.bin .add (.atom 1) (.atom 2)) (.atom 3)))
    = some (.bin .add (.atom 1) (.bin .mul (.atom 2) (.atom 3)), []) := by decide

/-- `-2 ** 2` is `(-2) ** 2` in Incan (unary binds tighter than power) and `a not in b` uses two tokens. -/
example : parse 40 0 [.minus, .atom 2, .starstar, .atom 2] = some (.bin .pow (.pre .neg (.atom 2)) (.atom 2), []) := by decide
example : parse 40 0 [.atom 1, .kwNot, .kwIn, .atom 2, .kwAnd, .kwNot, .atom 3]
    = some (.bin .and_ (.bin .notIn (.atom 1) (.atom 2)) (.pre .not_ (.atom 3)), []) := by decide

end Incan.Ladder

/-! ### Literals: what the formatter writes is read back as the same value -/
namespace Incan.Literals

theorem scanStr_nil : scanStr [] = none := by rw [scanStr.eq_def]

/-- MAIN (string literals): for every string value `s` and every following text, the lexer reads the formatter's
`"<escaped s>"` back as exactly `s` and continues right after the closing quote. -/
theorem string_literal_roundtrip (s tail : List Char) :
    scanStr (fmtStr s ++ '"' :: tail) = some (s, tail) :=
  scan_flatMap (fun _ _ _ => rfl) scanStr_quote s (fun c _ => scanStr_esc c) tail

/-- The written literal is never mistaken for a triple-quoted one, unless the value is empty and the next
character of the line is another quote (the formatter never writes a quote right after a literal). -/
theorem string_literal_lexes (s tail : List Char) (ht : s = [] → tail.head? ≠ some '"') :
    lexStr ('"' :: (fmtStr s ++ '"' :: tail)) = some (s, tail) := by
  have hrt := string_literal_roundtrip s tail
  rw [lexStr_quote, hrt]
  -- if the written text began with a quote, `scanStr` would stop there and return the empty value
  intro r h
  rw [h, scanStr_quote] at hrt
  cases hrt
  exact ht rfl rfl

-- Code points below: 34 `"`, 92 `\`, 39 `'`, 120 `x`, 48 `0`, 102 `f`; 105 116 39 115 is `it's`.
/-- MAIN (bytes literals): for every byte string, the lexer reads the formatter's `b"<escaped>"` back as exactly
those bytes — printable ASCII as itself (the apostrophe included), quote and backslash escaped, the rest `\\xNN`. -/
theorem bytes_literal_roundtrip (bs tail : List Nat) (hb : ∀ b ∈ bs, b < 256) :
    scanBytes (fmtBytes bs ++ 34 :: tail) = some (bs, tail) :=
  scan_flatMap (fun _ _ _ => rfl) scanBytes_quote bs (fun b h => scanBytes_esc b (hb b h)) tail

/-- What `std::ascii::escape_default` would add (a backslash before the apostrophe) is not read back: the lexer
keeps both characters. -/
theorem apostrophe_must_stay_bare : scanBytes [92, 39, 34] = some ([92, 39], []) := by decide

example : fmtBytes [105, 116, 39, 115, 0, 255, 34] = [105, 116, 39, 115, 92, 120, 48, 48, 92, 120, 102, 102, 92, 34] := by decide
example : scanStr (fmtStr ['a', '"', '\\', '\n', 'é'] ++ ['"', '+']) = some (['a', '"', '\\', '\n', 'é'], ['+']) :=
  string_literal_roundtrip _ _

end Incan.Literals
