import IncanModel.Lemmas.Layout
/-
C10 — Layout and comments never change how a program is parsed (lexer layer).

The six `…_ignored` theorems quantify over **every lexer state and every continuation `rest`**, i.e. over every
position of every file at once: the lexer is a left fold, so an edit that leaves the state unchanged
at the point where it occurs leaves the whole token stream unchanged.  `reindent_invariant` and the three end-of-file
theorems speak of a whole input read from the initial state.  The vocabulary of the statements is defined in
Lemmas/Layout: `IsBlankCh` (space, tab or CR), `width`, `reindent`, `StrictMono0 f` (strictly increasing, `f 0 = 0`).
A theorem about a state `s` with `hm : s.mode = …` gets to a written-out state, on which `step1` computes, by
`obtain ⟨_, d, o⟩ := s; cases hm`.
-/
namespace Incan.Layout

/-- Trailing / interior spaces and tabs inside a logical line are ignored. -/
theorem space_in_line_ignored (s : S1) (hm : s.mode = .code) (c : Char) (hc : c = ' ' ∨ c = '\t') (rest : List Item) :
    run1 s (.ch c :: rest) = run1 s rest := by
  obtain ⟨_, d, o⟩ := s
  cases hm
  rcases hc with rfl | rfl <;> rfl

/-- A carriage return is ignored in every state (CRLF = LF). -/
theorem cr_ignored (s : S1) (rest : List Item) : run1 s (.ch '\r' :: rest) = run1 s rest := by
  obtain ⟨m, d, o⟩ := s
  cases m <;> rfl

/-- A trailing comment is invisible: `code  # comment⏎` lexes like `code⏎`. -/
theorem trailing_comment_ignored (s : S1) (hm : s.mode = .code) (body : List Char) (hb : '\n' ∉ body)
    (rest : List Item) :
    run1 s (.ch '#' :: (body.map .ch ++ .ch '\n' :: rest)) = run1 s (.ch '\n' :: rest) := by
  obtain ⟨_, d, o⟩ := s
  cases hm
  rw [run1_cons, run1_append, step1_hash_code, comment_body_skipped _ (Or.inl rfl) body hb]; rfl

/-- A blank line (any blanks, then newline) at the start of a line is invisible. -/
theorem blank_line_ignored (s : S1) (hm : s.mode = .ls 0) (ws : List Char) (hws : ∀ c ∈ ws, IsBlankCh c)
    (rest : List Item) : run1 s (ws.map .ch ++ .ch '\n' :: rest) = run1 s rest := by
  obtain ⟨_, d, o⟩ := s
  cases hm
  rw [run1_append, leading_blanks _ _ _ _ hws]; rfl

/-- A comment line with any indentation of its own is invisible. -/
theorem comment_line_ignored (s : S1) (hm : s.mode = .ls 0) (ws : List Char) (hws : ∀ c ∈ ws, IsBlankCh c)
    (body : List Char) (hb : '\n' ∉ body) (rest : List Item) :
    run1 s (ws.map .ch ++ .ch '#' :: (body.map .ch ++ .ch '\n' :: rest)) = run1 s rest := by
  obtain ⟨_, d, o⟩ := s
  cases hm
  rw [run1_append, leading_blanks _ _ _ _ hws, run1_cons, run1_append, step1_hash_ls,
    comment_body_skipped _ (Or.inr rfl) body hb]; rfl

/-- Inside brackets a line break, followed by any continuation indentation, is invisible. -/
theorem newline_in_brackets_ignored (s : S1) (hm : s.mode = .code) (hd : s.depth > 0) (ws : List Char)
    (hws : ∀ c ∈ ws, c = ' ' ∨ c = '\t') (rest : List Item) :
    run1 s (.ch '\n' :: (ws.map .ch ++ rest)) = run1 s rest := by
  have h1 : step1 s (.ch '\n') = s := by
    obtain ⟨_, d, o⟩ := s
    cases hm
    exact if_pos hd
  rw [run1_cons, h1]
  induction ws with
  | nil => rfl
  | cons c cs ih =>
    rw [List.map_cons, List.cons_append, space_in_line_ignored s hm c (hws c List.mem_cons_self)]
    exact ih fun x hx => hws x (List.mem_cons_of_mem _ hx)

/-- **Re-indentation**: replacing every indentation width `n` by `f n`, for any strictly increasing
`f` with `f 0 = 0` (2↔4 spaces, tabs counted as 4 columns, …), yields the same token stream —
block structure depends only on *relative* indentation. -/
theorem reindent_invariant {f : Nat → Nat} (hf : StrictMono0 f) (evs : List Event) :
    tokens (evs.map (reindent f)) = tokens evs := by
  have h := run2_reindent hf S2.init evs
  rw [S2.init, List.map_cons, List.map_nil, hf.1] at h
  unfold tokens finish S2.init
  rw [h, List.length_map]

/-- A final newline only adds the NEWLINE token that closes the last logical line. -/
theorem final_newline (items : List Item) (hm : (run1 S1.init items).mode = .code)
    (hd : (run1 S1.init items).depth = 0) :
    events (items ++ [.ch '\n']) = events items ++ [.newline] := by
  unfold events
  rw [run1_append]
  generalize run1 S1.init items = s at *
  obtain ⟨_, d, o⟩ := s
  cases hm; cases hd; rfl

/-- Blanks after the last line break (no line break after them) are invisible: whatever their width — narrower than,
equal to or wider than the open block — no INDENT, DEDENT or error is produced for them; the file lexes as without. -/
theorem eof_blank_tail_invisible (items : List Item) (n : Nat) (hm : (run1 S1.init items).mode = .ls n)
    (ws : List Char) (hws : ∀ c ∈ ws, IsBlankCh c) :
    lex (items ++ ws.map .ch) = lex items := by
  unfold lex events
  rw [run1_append]
  generalize run1 S1.init items = s at *
  obtain ⟨_, d, o⟩ := s
  cases hm
  rw [leading_blanks _ _ _ _ hws]

/-- … and the same for a comment without a line break at the very end of the file. -/
theorem eof_comment_tail_invisible (items : List Item) (n : Nat) (hm : (run1 S1.init items).mode = .ls n)
    (ws : List Char) (hws : ∀ c ∈ ws, IsBlankCh c) (body : List Char) (hb : '\n' ∉ body) :
    lex (items ++ (ws.map .ch ++ .ch '#' :: body.map .ch)) = lex items := by
  unfold lex events
  rw [run1_append, run1_append]
  generalize run1 S1.init items = s at *
  obtain ⟨_, d, o⟩ := s
  cases hm
  rw [leading_blanks _ _ _ _ hws, run1_cons, step1_hash_ls, comment_body_skipped _ (Or.inr rfl) body hb]

example : lex [.tok 1 false false, .ch '\n', .ch ' ', .ch ' ', .tok 2 false false, .ch '\n', .ch ' ', .ch ' ', .ch ' ', .ch ' ', .ch ' ', .ch '\t']
    = lex [.tok 1 false false, .ch '\n', .ch ' ', .ch ' ', .tok 2 false false, .ch '\n'] := by decide

example : StrictMono0 (fun n => 2 * n) := ⟨rfl, fun a b h => by show 2 * a < 2 * b; omega⟩

/-- `def f():⏎····x⏎` with 4-space indentation lexes like the same text with a tab for the indentation, CRLF line
ends, a trailing comment, a blank line, an indented comment line and a trailing space. -/
example :
    lex [.tok 1 false false, .ch '\n', .ch ' ', .ch ' ', .ch ' ', .ch ' ', .tok 2 false false, .ch '\n']
      = lex [.tok 1 false false, .ch ' ', .ch '#', .ch 'c', .ch '\r', .ch '\n', .ch '\n', .ch ' ', .ch '#', .ch '\n',
             .ch '\t', .tok 2 false false, .ch ' ', .ch '\r', .ch '\n'] := by decide

end Incan.Layout
