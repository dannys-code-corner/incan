import IncanModel.Lemmas.ConstEval
import IncanModel.Sem.Comprehension
/-
C06 — compile-time evaluation agrees with run-time evaluation.
-/
namespace Incan.ConstEval
open Incan.Seq

/-- Environment agreement: every const whose value the compiler knows has that value at run time. -/
def Agree (C : String → Option (Ty × Option CV)) (R : String → Option RV) : Prop :=
  ∀ name t v, C name = some (t, some v) → R name = some v.toRV

/-- MAIN.  Whatever value the compiler records for an initializer is the value the same expression has when it
is evaluated in a function body: a const never holds a value different from the one its initializer denotes. -/
theorem const_value_sound (C : String → Option (Ty × Option CV)) (R : String → Option RV) (hCR : Agree C R)
    (e : E) (t : Ty) (v : CV) (h : constEval C e = .ok (t, some v)) : runEval R e = .ok v.toRV := by
  fun_induction constEval C e generalizing t v
  -- closes the branches in which constEval fails or records no value; in the ten that stay a value is produced
  all_goals try (cases h; done)
  -- the four literals
  next => cases h; rfl
  next => cases h; rfl
  next => cases h; rfl
  next => cases h; rfl
  next hr => cases h; rw [runEval, hCR _ t v hr] -- ref
  next he _ ih => -- neg
    injection h with h; injection h with _ h
    split at h <;> cases h <;> rw [runEval, ih _ _ he] <;> rfl
  next he ih => -- not
    injection h with h; injection h with _ h
    split at h <;> cases h
    rw [runEval, ih _ _ he]; rfl
  next hl _ _ hr ihl ihr => -- bin
    rcases binConst_known h with ⟨a, b, rfl, rfl, ho⟩ | ⟨a, b, rfl, rfl, ho, rfl⟩
    · rcases ho with ⟨rfl, rfl⟩ | ⟨rfl | rfl, rfl⟩ <;> simp [runEval, ihl _ _ hl, ihr _ _ hr, CV.toRV, binRun]
    · -- the compile-time conjunction equals the short-circuit result
      rcases ho with rfl | rfl <;> cases a <;> simp [runEval, ihl _ _ hl, ihr _ _ hr, CV.toRV]
  next hn hs _ hc ihb ihi => -- index: `hs`, `hn` read string and position off the values, `hc` is `strIndex`
    cases h; cases cvStr_eq_some.1 hs; cases cvInt_eq_some.1 hn
    simp [runEval, ihb _ _ ‹_›, ihi _ _ ‹_›, CV.toRV, hc]
  -- slice: `hs`, `he`, `hp` are the `cBound` results, `hk` says each present bound is known, `hout` is `strSlice`
  next hs _ _ he _ _ hp known _ hk hs' _ hout ihb ihs ihe ihp =>
    cases h; cases cvStr_eq_some.1 hs'
    simp only [known, Bool.and_eq_true] at hk
    simp [runEval, ihb _ _ ‹_›, rBound_of_cBound ihs hs hk.1.1, rBound_of_cBound ihe he hk.1.2,
      rBound_of_cBound ihp hp hk.2, CV.toRV, hout]

/-- Type agreement for a strict binary operator: the type the compiler decides is the type of the run-time result. -/
theorem binConst_type (op : Op) (r : E) (lv rv : Option CV) (t : Ty) (v : Option CV) (a b res : RV)
    (hop : ¬ (op = .and_ ∨ op = .or_))
    (hc : binConst op r a.ty lv b.ty rv = .ok (t, v)) (hr : binRun op r a b = .ok res) : res.ty = t := by
  revert hc
  fun_cases binConst op r a.ty lv b.ty rv <;> intro hc
  -- closes the branches in which binConst fails; seven stay, in the order of its clauses
  all_goals try (cases hc; done)
  next h => -- `+` on strings
    cases hc; obtain ⟨rfl, ha, hb⟩ := h
    cases a <;> cases ha; cases b <;> cases hb; cases hr; rfl
  next h => cases hc; exact binRun_cmp_ty h.1 hr -- comparison of strings
  next h => -- `in`, `not in`
    cases hc; obtain ⟨ho, ha, hb⟩ := h
    cases a <;> cases ha; cases b <;> cases hb; rcases ho with rfl | rfl <;> cases hr <;> rfl
  next => cases hc; exact binRun_num_ty ‹_› ‹_› ‹_› hr -- arithmetic
  next h _ => cases hc; exact binRun_cmp_ty h hr -- comparison of numbers
  next h _ _ => cases hc; exact binRun_cmp_ty h hr -- comparison at equal types
  next h _ => exact absurd h hop -- `and`, `or`

/-- Every const the compiler has typed has, at run time, a value of that type. -/
def TyAgree (C : String → Option (Ty × Option CV)) (R : String → Option RV) : Prop :=
  ∀ name t v rv, C name = some (t, v) → R name = some rv → rv.ty = t

/-- The type the compiler decides for an initializer is the type of the value the same expression has at run
time (for `**` this includes the syntactic rule: int only for a non-negative integer literal exponent). -/
theorem const_type_sound (C : String → Option (Ty × Option CV)) (R : String → Option RV) (hCR : TyAgree C R)
    (e : E) (t : Ty) (v : Option CV) (rv : RV)
    (hc : constEval C e = .ok (t, v)) (hr : runEval R e = .ok rv) : rv.ty = t := by
  fun_induction constEval C e generalizing t v rv
  -- closes the branches in which constEval fails; twelve stay (the value plays no part, so index and slice stay twice)
  all_goals try (cases hc; done)
  -- the four literals
  next => cases hc; cases hr; rfl
  next => cases hc; cases hr; rfl
  next => cases hc; cases hr; rfl
  next => cases hc; cases hr; rfl
  next hn => -- ref
    cases hc
    rw [runEval] at hr
    split at hr <;> cases hr
    exact hCR _ t v _ hn ‹_›
  next he _ ih => -- neg
    cases hc
    rw [runEval] at hr
    split at hr <;> cases hr <;> cases ih _ _ _ he ‹_› <;> rfl
  next => -- not
    cases hc
    rw [runEval] at hr
    split at hr <;> cases hr
    rfl
  next op l r _ lv hl _ rv' hr' ihl ihr => -- bin
    rw [runEval] at hr
    by_cases hop : op = .and_ ∨ op = .or_
    · -- the result of and / or is a bool on both sides
      cases binConst_bool (by rcases hop with rfl | rfl <;> rfl) hc
      rw [if_pos hop] at hr
      -- the `match`es of the and/or clause in turn: the left result, the two short-circuit tests, the right result
      split at hr
      · split at hr
        · cases hr; rfl
        split at hr
        · cases hr; rfl
        split at hr <;> cases hr
        rfl
      · cases hr
      · cases hr
    · rw [if_neg hop] at hr
      split at hr
      · cases hr
      split at hr
      · cases hr
      cases ihl _ _ _ hl ‹_›
      cases ihr _ _ _ hr' ‹_›
      exact binConst_type op r lv rv' t v _ _ rv hop hc hr
  next => cases hc; exact runEval_index_ty hr
  next => cases hc; exact runEval_index_ty hr
  next => cases hc; exact runEval_slice_ty hr
  next => cases hc; exact runEval_slice_ty hr

/-- An out-of-range string index found at compile time is exactly the IndexError of run time … -/
theorem index_error_agrees (C : String → Option (Ty × Option CV)) (R : String → Option RV) (hCR : Agree C R)
    (b i : E) (tb ti : Ty) (s : List Char) (n : Int64)
    (hb : constEval C b = .ok (tb, some (.str s))) (hi : constEval C i = .ok (ti, some (.int n)))
    (h : constEval C (.index b i) = .error .stringIndexOutOfRange) :
    runEval R (.index b i) = .error .stringIndexOutOfRange := by
  simp only [runEval, const_value_sound C R hCR b tb _ hb, const_value_sound C R hCR i ti _ hi, CV.toRV]
  cases hc : strIndex s n with
  | error _ => rfl
  | ok c =>
    -- an index in range is no such error at compile time either
    simp only [constEval, hb, hi, cvStr, cvInt, hc] at h
    split at h
    · cases h
    · split at h <;> cases h

/-- … and conversely: if the run-time evaluation raises it, a well-typed initializer with known operands is
rejected at compile time with that error (it is never silently accepted). -/
theorem runtime_index_error_reported (C : String → Option (Ty × Option CV))
    (b i : E) (s : List Char) (n : Int64) (e : Err)
    (hb : constEval C b = .ok (.fstr, some (.str s))) (hi : constEval C i = .ok (.int, some (.int n)))
    (hrun : strIndex s n = .error e) :
    constEval C (.index b i) = .error .stringIndexOutOfRange := by
  simp [constEval, hb, hi, cvStr, cvInt, hrun]

/-- A zero slice step that is reported at compile time is the ValueError of run time. -/
theorem slice_step_zero_agrees (C : String → Option (Ty × Option CV)) (R : String → Option RV) (hCR : Agree C R)
    (b st en sp : E) (h : constEval C (.slice b st en sp) = .error .sliceStepZero)
    (hb : ∃ s, constEval C b = .ok (.fstr, some (.str s)))
    (hs : st.isAbsent = true ∨ ∃ n, constEval C st = .ok (.int, some (.int n)))
    (he : en.isAbsent = true ∨ ∃ n, constEval C en = .ok (.int, some (.int n)))
    (hp : sp.isAbsent = true ∨ ∃ n, constEval C sp = .ok (.int, some (.int n))) :
    runEval R (.slice b st en sp) = .error .sliceStepZero := by
  obtain ⟨s, hb⟩ := hb
  -- each bound is absent or known, so both sides see the same three bounds
  have bound : ∀ x : E, (x.isAbsent = true ∨ ∃ n, constEval C x = .ok (.int, some (.int n))) →
      ∃ P V, cBound x (constEval C x) = .ok (P, V) ∧ (!P || V.isSome) = true ∧ rBound x (runEval R x) = .ok V := by
    intro x hx
    obtain ⟨P, V, hc, hk⟩ : ∃ P V, cBound x (constEval C x) = .ok (P, V) ∧ (!P || V.isSome) = true := by
      by_cases ha : x.isAbsent = true
      · exact ⟨false, none, by simp [cBound, ha], rfl⟩
      · obtain ⟨n, hn⟩ := hx.resolve_left ha
        exact ⟨true, some n, by simp [cBound, ha, hn, cvInt], rfl⟩
    exact ⟨P, V, hc, hk, rBound_of_cBound (const_value_sound C R hCR x) hc hk⟩
  obtain ⟨sP, sV, hs1, hs3, hs2⟩ := bound st hs
  obtain ⟨eP, eV, he1, he3, he2⟩ := bound en he
  obtain ⟨pP, pV, hp1, hp3, hp2⟩ := bound sp hp
  simp only [runEval, const_value_sound C R hCR b _ _ hb, CV.toRV, hs2, he2, hp2]
  simp only [constEval, hb, hs1, he1, hp1, cvStr, hs3, he3, hp3, Bool.and_self, ne_eq, not_true_eq_false,
    if_false] at h
  -- what is left on either side is a `match` on the same `strSlice`
  split at h
  · cases h
  · rfl
  · cases h

/-- `concat!` folding of `&'static str` chains denotes the run-time concatenation (no re-escaping, no
reordering): the folded text of a const initializer is the value of the same expression in a function. -/
theorem static_fold_sound (S : String → Option (List Char)) (R : String → Option RV)
    (hSR : ∀ name v, S name = some v → R name = some (.str v))
    (e : E) (s : List Char) (h : staticStr S e = some s) : runEval R e = .ok (.str s) := by
  fun_induction staticStr S e generalizing s
  next => cases h; rfl
  next => rw [runEval, hSR _ s h]
  next a b hb ha ihl ihr =>
    cases h
    simp [runEval, ihl a ha, ihr b hb, binRun]
  next => cases h
  next => cases h

/-! ### Dependency cycles -/

theorem foldl_error_absorbs {α : Type} (g : α → Except DErr Unit) (ds : List α) (e : DErr) :
    ds.foldl (fun acc d => match acc with | .error e => .error e | .ok () => g d) (Except.error e) = Except.error e := by
  induction ds with
  | nil => rfl
  | cons d ds ih => exact ih

theorem foldl_ok_or_error {α : Type} (g : α → Except DErr Unit) (ds : List α) (r : Except DErr Unit)
    (h : ds.foldl (fun acc d => match acc with | .error e => .error e | .ok () => g d) (.ok ()) = r) :
    (r = .ok () ∧ ∀ d ∈ ds, g d = .ok ()) ∨ ∃ e, r = .error e ∧ ∃ d ∈ ds, g d = .error e := by
  subst h
  induction ds with
  | nil => exact .inl ⟨rfl, nofun⟩
  | cons d ds ih =>
    rw [List.foldl_cons]
    cases hd : g d with
    | error e => exact .inr ⟨e, foldl_error_absorbs g ds e, d, List.mem_cons_self, hd⟩
    | ok u =>
      rcases ih with ⟨hr, hall⟩ | ⟨e, he, x, hx, hxe⟩
      · exact .inl ⟨hr, List.forall_mem_cons.2 ⟨hd, hall⟩⟩
      · exact .inr ⟨e, he, x, List.mem_cons_of_mem _ hx, hxe⟩

theorem visit_ok_step (deps : String → Option (List String)) (f : Nat) (stack : List String) (n : String)
    (h : visit deps f stack n = .ok ()) :
    n ∉ stack ∧ ∃ ds, deps n = some ds ∧ ∀ d ∈ ds, visit deps (f - 1) (n :: stack) d = .ok () := by
  cases f with
  | zero => cases h
  | succ f =>
    rw [visit] at h
    split at h
    · cases h
    split at h
    · cases h
    · rcases foldl_ok_or_error _ _ _ h with ⟨_, hall⟩ | ⟨_, he, _⟩
      · exact ⟨‹_›, _, ‹_›, hall⟩
      · cases he

/-- `path` is a chain of dependency edges starting at `n`. -/
def IsPath (deps : String → Option (List String)) : String → List String → Prop
  | _, [] => True
  | n, p :: ps => (∃ ds, deps n = some ds ∧ p ∈ ds) ∧ IsPath deps p ps

/-- "Always reported": if resolving `n` succeeds, no dependency chain from `n` ever comes back to a const that is
still in progress or that it already passed through.  Hence a cycle reachable from `n` makes the resolution
fail (with the cycle diagnostic, `visit` has no other way to fail on declared names — see `never_out_of_fuel`). -/
theorem ok_implies_no_repeat (deps : String → Option (List String)) (path : List String) :
    ∀ (f : Nat) (stack : List String) (n : String), visit deps f stack n = .ok () → IsPath deps n path →
      (n :: path).Pairwise (· ≠ ·) ∧ ∀ m ∈ n :: path, m ∉ stack := by
  induction path with
  | nil =>
    intro f stack n h _
    simp [(visit_ok_step deps f stack n h).1]
  | cons p ps ih =>
    intro f stack n h ⟨⟨ds', hds', hmem⟩, hrest⟩
    obtain ⟨hn, ds, hds, hall⟩ := visit_ok_step deps f stack n h
    cases hds.symm.trans hds'
    obtain ⟨hpw, hnot⟩ := ih _ (n :: stack) p (hall p hmem) hrest
    exact ⟨List.pairwise_cons.2 ⟨fun m hm heq => hnot m hm (heq ▸ List.mem_cons_self), hpw⟩,
      List.forall_mem_cons.2 ⟨hn, fun m hm hms => hnot m hm (List.mem_cons_of_mem _ hms)⟩⟩

/-- A dependency cycle reachable from `n` is never accepted. -/
theorem cycle_is_rejected (deps : String → Option (List String)) (f : Nat) (n : String) (path : List String)
    (hp : IsPath deps n path) (hrep : ¬ (n :: path).Pairwise (· ≠ ·)) : visit deps f [] n ≠ .ok () := by
  intro h
  exact hrep (ok_implies_no_repeat deps path f [] n h hp).1

/-- Number of declared consts that are not in progress. -/
def pending : List String → List String → Nat
  | [], _ => 0
  | a :: as, st => (if a ∈ st then 0 else 1) + pending as st

theorem pending_eq_countP (names stack : List String) : pending names stack = names.countP (· ∉ stack) := by
  induction names with
  | nil => rfl
  | cons a as ih => rw [pending, ih, List.countP_cons, Nat.add_comm]; by_cases h : a ∈ stack <;> simp [h]

theorem pending_mono (names stack : List String) (n : String) : pending names (n :: stack) ≤ pending names stack := by
  rw [pending_eq_countP, pending_eq_countP]
  exact List.countP_mono_left fun a _ => by simp only [decide_eq_true_eq]; exact mt (List.mem_cons_of_mem _)

theorem pending_lt_of_mem (names stack : List String) (n : String) (hn : n ∈ names) (hs : n ∉ stack) :
    pending names (n :: stack) < pending names stack := by
  induction names with
  | nil => simp at hn
  | cons a as ih =>
    simp only [pending, List.mem_cons]
    by_cases ha : a = n
    · subst ha
      have := pending_mono as stack a
      simp [hs]; omega
    · simp only [ha, false_or]
      exact Nat.add_lt_add_left (ih ((List.mem_cons.1 hn).resolve_left fun h => ha h.symm)) _

/-- "Rather than looping": with the fuel the driver gives it (one more than the number of consts) the resolution
never runs out of fuel, whatever the dependency graph — it ends with success, a cycle or an unknown name. -/
theorem never_out_of_fuel (deps : String → Option (List String)) (names : List String)
    (hnames : ∀ n ds, deps n = some ds → n ∈ names) :
    ∀ (f : Nat) (stack : List String) (n : String),
      pending names stack < f → visit deps f stack n ≠ .error .fuel := by
  intro f
  induction f with
  | zero => nofun
  | succ f ih =>
    intro stack n hlt h
    rw [visit] at h
    split at h
    · cases h
    split at h
    · cases h
    next hn _ ds hds =>
      -- the fold can only return an error produced by one of the inner calls, and those have fuel enough
      rcases foldl_ok_or_error _ _ _ h with ⟨h', _⟩ | ⟨_, he, d, _, hd⟩
      · cases h'
      · cases he
        exact ih (n :: stack) d
          (Nat.lt_of_lt_of_le (pending_lt_of_mem names stack n (hnames n ds hds) hn) (Nat.le_of_lt_succ hlt)) hd

theorem pending_le_length (names stack : List String) : pending names stack ≤ names.length := by
  rw [pending_eq_countP]; exact List.countP_le_length

/-- The resolution of any const of any program ends with a verdict. -/
theorem resolution_terminates (deps : String → Option (List String)) (names : List String)
    (hnames : ∀ n ds, deps n = some ds → n ∈ names) (n : String) :
    visit deps (names.length + 1) [] n ≠ .error .fuel :=
  never_out_of_fuel deps names hnames _ [] n (Nat.lt_succ_of_le (pending_le_length names []))

example : visit (fun n => if n = "A" then some ["B"] else if n = "B" then some ["A"] else none) 3 [] "A"
    = .error (.cycle ["A", "B", "A"]) := by decide
example : visit (fun n => if n = "A" then some ["B", "C"] else if n = "B" then some ["C"] else if n = "C" then some [] else none) 4 [] "A"
    = .ok () := by decide
example : constEval (fun _ => none) (.slice (.str "hello".toList) (.int 0) (.bin .add (.int 1) (.int 1)) .absent)
    = .ok (.fstr, none) := by rfl

end Incan.ConstEval

namespace Incan.Comp

/-- A frozen set answers membership like its literal, in whatever order the elements were written. -/
theorem contains_iff {α : Type} [BEq α] [LawfulBEq α] (data : List α) (x : α) : contains data x = true ↔ x ∈ data := by
  rw [contains, List.any_beq', List.contains_iff_mem]

theorem contains_perm {α : Type} [BEq α] [LawfulBEq α] (d₁ d₂ : List α) (h : d₁.Perm d₂) (x : α) :
    contains d₁ x = contains d₂ x :=
  h.any_eq

/-- Bisection needs sorted data: on `{7, 2, 5, 3}` it misses elements that are there. -/
theorem bisect_misses_unsorted :
    contains [7, 2, 5, 3] (7 : Int) = true ∧ containsBisect [7, 2, 5, 3] 7 = false ∧
    contains [7, 2, 5, 3] (3 : Int) = true ∧ containsBisect [7, 2, 5, 3] 3 = false := by decide

end Incan.Comp
