import IncanModel.Tool.TestRunner
/-
C16 — `incan test` reports the truth.
-/
namespace Incan.TestRunner

/-- A test is reported PASSED only if its body was executed and ran to completion; FAILED only if it was
executed and did not. -/
theorem verdict_truthful (t : Test) :
    ((runOne t).1 = .passed → (runOne t).2 = true ∧ t.bodyPasses = true) ∧
    ((runOne t).1 = .failed → (runOne t).2 = true ∧ t.bodyPasses = false) := by
  unfold runOne
  cases t.skip <;> cases t.xfail <;> cases t.bodyPasses <;> simp

/-- `@skip` tests are never executed. -/
theorem skip_not_run (t : Test) (h : t.skip = true) : runOne t = (.skipped, false) := by
  simp [runOne, h]

/-- `@xfail` inverts the verdict. -/
theorem xfail_inverts (t : Test) (hs : t.skip = false) (hx : t.xfail = true) :
    (runOne t).1 = (if t.bodyPasses then .xpassed else .xfailed) := by
  simp [runOne, hs, hx]

/-- Without `-x` the loop is a map: every test, in order, each with its own verdict. -/
theorem runLoop_false (l : List Test) : runLoop false l = l.map fun t => (t, runOne t) := by
  induction l with
  | nil => rfl
  | cons t ts ih => simp [runLoop, ih]

/-- Without `-x`, every selected test gets exactly one verdict (nothing is dropped or duplicated). -/
theorem all_selected_reported (filter : Option String) (includeSlow : Bool) (tests : List Test) :
    (runTests filter includeSlow false tests).1.map (·.1) = tests.filter (selected filter includeSlow) := by
  simp [runTests, runLoop_false, Function.comp_def]

/-- `-k` / `--slow` select exactly the documented subset. -/
theorem filter_exact (filter : Option String) (includeSlow stopOnFail : Bool) (tests : List Test) (t : Test)
    (hrun : t ∈ (runTests filter includeSlow false tests).1.map (·.1)) :
    t ∈ tests ∧ (includeSlow = true ∨ t.slow = false) ∧
    (∀ kw, filter = some kw → containsSub t.name.toList kw.toList = true) := by
  have _ := stopOnFail
  rw [all_selected_reported] at hrun
  simp only [List.mem_filter, selected, Bool.and_eq_true, Bool.or_eq_true, Bool.not_eq_true'] at hrun
  exact ⟨hrun.1, hrun.2.2, fun kw hk => by simpa [hk] using hrun.2.1⟩

theorem count_pos (v : Verdict) (rs : List (Test × Verdict × Bool)) : 0 < count v rs ↔ ∃ r ∈ rs, r.2.1 = v := by
  simp [count, List.length_pos_iff_exists_mem]

/-- The exit status is non-zero iff some reported test FAILED or XPASSED. -/
theorem exit_iff_failure (rs : List (Test × Verdict × Bool)) :
    (summarize rs).exitOk = false ↔ ∃ r ∈ rs, r.2.1 = .failed ∨ r.2.1 = .xpassed := by
  simp only [summarize, Bool.not_eq_false', Bool.or_eq_true, decide_eq_true_eq, gt_iff_lt, count_pos, and_or_left,
    exists_or]

theorem count_append (v : Verdict) (a b : List (Test × Verdict × Bool)) :
    count v (a ++ b) = count v a + count v b := by
  simp [count]

/-- The printed counts add up to the number of verdicts. -/
theorem counts_match (rs : List (Test × Verdict × Bool)) :
    (summarize rs).passed + (summarize rs).failed + (summarize rs).skipped + (summarize rs).xfailed +
      (summarize rs).xpassed = rs.length := by
  simp only [summarize]
  induction rs with
  | nil => rfl
  | cons r rs ih =>
    -- a verdict falls under exactly one of the five headings
    have one : count .passed [r] + count .failed [r] + count .skipped [r] + count .xfailed [r] +
        count .xpassed [r] = 1 := by
      obtain ⟨t, v, b⟩ := r
      cases v <;> rfl
    simp only [show r :: rs = [r] ++ rs from rfl, count_append, List.length_append, List.length_singleton]
    omega

/-- Discovery loses nothing: every test of every file is collected, under its own file. -/
theorem collect_complete (files : List (String × List Test)) (f : String) (ts : List Test) (t : Test)
    (hf : (f, ts) ∈ files) (ht : t ∈ ts) : (f, t) ∈ collect files :=
  List.mem_flatMap.2 ⟨(f, ts), hf, List.mem_map.2 ⟨t, ht, rfl⟩⟩

/-- … and invents nothing: what is collected is a test of one of the files. -/
theorem collect_sound (files : List (String × List Test)) (f : String) (t : Test)
    (h : (f, t) ∈ collect files) : ∃ ts, (f, ts) ∈ files ∧ t ∈ ts := by
  obtain ⟨⟨f', ts⟩, hf, hm⟩ := List.mem_flatMap.1 h
  obtain ⟨t', ht, heq⟩ := List.mem_map.1 hm
  cases heq
  exact ⟨ts, hf, ht⟩

/-- Every collected test counts: as many as the files hold together (the same name in two files is two tests). -/
theorem collect_length (files : List (String × List Test)) :
    (collect files).length = (files.map fun f => f.2.length).sum := by
  simp only [collect, List.length_flatMap, List.length_map]

/-- With no `-k`, `--slow` and no `-x`, every test of every discovered file is run and listed with its own verdict. -/
theorem every_test_run (files : List (String × List Test)) (f : String) (ts : List Test) (t : Test)
    (hf : (f, ts) ∈ files) (ht : t ∈ ts) :
    (t, runOne t) ∈ (runTests none true false ((collect files).map (·.2))).1 := by
  simp only [runTests, runLoop_false]
  refine List.mem_map.2 ⟨t, List.mem_filter.2 ⟨?_, by simp [selected]⟩, rfl⟩
  exact List.mem_map.2 ⟨(f, t), collect_complete files f ts t hf ht, rfl⟩

/-- End to end (no `-k`, `--slow`, no `-x`): every test of every discovered file gets a verdict line — whichever file
it is in and whatever the tests of other files are called. -/
theorem every_test_of_every_file_reported (files : List (String × List Test)) (f : String) (ts : List Test) (t : Test)
    (hf : (f, ts) ∈ files) (ht : t ∈ ts) :
    t ∈ (runTests none true false ((collect files).map (·.2))).1.map (·.1) :=
  List.mem_map.2 ⟨_, every_test_run files f ts t hf ht, rfl⟩

/-- … and a failing one among them makes the run fail. -/
theorem failing_test_in_any_file_fails_run (files : List (String × List Test)) (f : String) (ts : List Test) (t : Test)
    (hf : (f, ts) ∈ files) (ht : t ∈ ts) (hs : t.skip = false) (hx : t.xfail = false) (hb : t.bodyPasses = false) :
    (runTests none true false ((collect files).map (·.2))).2.exitOk = false :=
  (exit_iff_failure _).2 ⟨_, every_test_run files f ts t hf ht, Or.inl (by simp [runOne, hs, hx, hb])⟩

/-- Keeping one test per function name drops a failing test behind a passing one of the same name (seed C16-5): the
run then reports success although a test fails. -/
theorem first_of_name_hides_a_failure :
    let files := [("test_alpha.incn", [(⟨"test_roundtrip", false, false, false, true⟩ : Test)]),
                  ("test_beta.incn", [(⟨"test_roundtrip", false, false, false, false⟩ : Test)])]
    (runTests none false false ((collect files).map (·.2))).2.exitOk = false ∧
    (runTests none false false ((collectFirstOfName (collect files)).map (·.2))).2.exitOk = true := by
  decide

/-- Before the fix a test whose body fails was reported PASSED whenever it compiled (kernel-checked). -/
theorem old_runner_lied :
    runOneOld { name := "test_fail", skip := false, xfail := false, slow := false, bodyPasses := false } true = .passed := by
  decide

example : (runTests (some "add") false false
    [⟨"test_add", false, false, false, true⟩, ⟨"test_sub", false, false, false, false⟩,
     ⟨"test_add_slow", false, false, true, true⟩]).2 = ⟨1, 0, 0, 0, 0, true⟩ := by decide

end Incan.TestRunner
