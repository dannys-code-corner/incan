import IncanModel.Lemmas.Cargo
import IncanModel.Lemmas.ModuleTree
/-
C12 — Compilation is deterministic (the parts with a model: the dependency section of the generated Cargo.toml, and
the module tree of a multi-file project).

The dependency table and the module map are hash maps; "whatever order it iterates in" is "any permutation of its
entries".
-/
namespace Incan.Cargo

/-- The generated dependency list does not depend on the iteration order of the dependency table. -/
theorem manifest_order_independent (f : Flags) (t1 t2 : List (Name × Spec)) (hp : t1.Perm t2)
    (hn : (t1.map (·.1)).Nodup) : manifestDeps f t1 = manifestDeps f t2 := by
  unfold manifestDeps rustDeps
  rw [sortByName_eq_of_perm Prod.fst hp (eq_of_nodup_map hn)]

/-- `rustDeps` as it was before the fix: the table iterated directly, not sorted. -/
def rustDepsUnsorted (fixed : List Name) (table : List (Name × Spec)) : List (Name × Spec) :=
  table.filter (fun e => !fixed.contains e.1)

/-- Two iteration orders of the same table (`rand`, `uuid` as code points) then gave two different files. -/
theorem unsorted_depends_on_order :
    rustDepsUnsorted [] [([114, 97, 110, 100], .version "0.8" []), ([117, 117, 105, 100], .version "1.0" [])] ≠
    rustDepsUnsorted [] [([117, 117, 105, 100], .version "1.0" []), ([114, 97, 110, 100], .version "0.8" [])] := by
  decide

example : manifestDeps ⟨false, false, false⟩ [([117, 117, 105, 100], .version "1.0" []), ([114, 97, 110, 100], .version "0.8" [])]
    = manifestDeps ⟨false, false, false⟩ [([114, 97, 110, 100], .version "0.8" []), ([117, 117, 105, 100], .version "1.0" [])] :=
  manifest_order_independent _ _ _ (List.Perm.swap _ _ _) (by decide)

end Incan.Cargo

namespace Incan.ModuleTree
open Incan.Cargo

/-- The `pub mod` lines of a directory are exactly the next segments of the module paths that pass through it: every
module file is declared by its parent (no file is left out of the crate), and nothing is declared that has no file
or directory behind it (a `pub mod x;` without `x.rs` / `x/` is E0583). -/
theorem children_exact (paths : List Path) (dir : Path) (c : Name) :
    c ∈ childrenOf paths dir ↔ ∃ p ∈ paths, ∃ i, i < p.length ∧ p.take i = dir ∧ p[i]? = some c := by
  rw [childrenOf, List.mem_mergeSort, mem_dedup, mem_recorded, mem_dirChildren]

/-- In particular every module is declared all the way down from the crate root. -/
theorem every_module_reachable (paths : List Path) (p : Path) (hp : p ∈ paths) (i : Nat) (hi : i < p.length) :
    p[i] ∈ childrenOf paths (p.take i) :=
  (children_exact paths (p.take i) p[i]).2 ⟨p, hp, i, hi, rfl, List.getElem?_eq_getElem hi⟩

-- the paths `a`, `a/b`, `a/c/d`: `c` is a child of `a`
example : ([99] : Name) ∈ childrenOf [[[97]], [[97], [98]], [[97], [99], [100]]] [[97]] :=
  every_module_reachable _ [[97], [99], [100]] (by decide) 1 (by decide)

/-- MAIN (module lists): the `pub mod` lines written for a directory are the same whatever order the module map is
iterated in. -/
theorem children_order_independent (p1 p2 : List Path) (h : p1.Perm p2) (dir : Path) :
    childrenOf p1 dir = childrenOf p2 dir := by
  refine sorted_dedup_eq _ _ fun a => ?_
  simp only [mem_recorded, mem_dirChildren, h.mem_iff]

/-- … and each child is declared once (a repeated `pub mod x;` does not compile). -/
theorem children_nodup (paths : List Path) (dir : Path) : (childrenOf paths dir).Nodup :=
  (List.mergeSort_perm _ _).nodup_iff.2 (nodup_dedup _)

/-- Where the lines go does not depend on the order either. -/
theorem carrier_order_independent (p1 p2 : List Path) (h : p1.Perm p2) (dir : Path) :
    carrier p1 dir = carrier p2 dir := by
  rw [carrier, carrier, h.contains_eq]

/-- rustc accepts at most one of `<dir>.rs` and `<dir>/mod.rs` (E0761 otherwise): never both are written. -/
theorem never_file_and_modrs (paths : List Path) (dir : Path) : (writes paths dir) ≠ (true, true) := by
  intro h
  have h1 : paths.contains dir = true := congrArg Prod.fst h
  have h2 : (carrier paths dir == .modRs) = true := congrArg Prod.snd h
  rw [carrier, h1, if_pos rfl] at h2
  split at h2 <;> exact absurd h2 (by decide)

/-- The generator as it was wrote both for a module that is also a directory (`a.incn` next to `a/b.incn`). -/
theorem old_generator_wrote_both :
    writesOld [[[97]], [[97], [98]]] [[97]] = (true, true) ∧ writes [[[97]], [[97], [98]]] [[97]] = (true, false) := by
  decide

end Incan.ModuleTree
