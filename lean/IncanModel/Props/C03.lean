import IncanModel.Lemmas.Checker
/-
C03 — ill-typed programs are rejected with a located diagnostic (traversal, scope chain, match coverage, call
arguments and arity, parameter defaults, trait adoption).
-/
namespace Incan.Checker

mutual
  theorem visitEx_all (e : Ex) : visitEx e = allEx e := by
    cases e with
    | mk id role subs blocks => rw [visitEx, skipped_false, visitExs_all subs, visitBlks_all blocks]; rfl
  theorem visitExs_all (es : List Ex) : visitExs es = allExs es := by
    cases es with
    | nil => rfl
    | cons e es => rw [visitExs, visitEx_all e, visitExs_all es]; rfl
  theorem visitSt_all (s : St) : visitSt s = allSt s := by
    cases s with
    | mk exprs blocks => rw [visitSt, visitExs_all exprs, visitBlks_all blocks]; rfl
  theorem visitSts_all (ss : List St) : visitSts ss = allSts ss := by
    cases ss with
    | nil => rfl
    | cons s ss => rw [visitSts, visitSt_all s, visitSts_all ss]; rfl
  theorem visitBlk_all (b : Blk) : visitBlk b = allBlk b := by
    cases b with
    | mk role stmts => rw [visitBlk, skipped_false, visitSts_all stmts]; rfl
  theorem visitBlks_all (bs : List Blk) : visitBlks bs = allBlks bs := by
    cases bs with
    | nil => rfl
    | cons b bs => rw [visitBlks, visitBlk_all b, visitBlks_all bs]; rfl
end

/-- MAIN (traversal): in a function body of any shape and nesting depth — then/elif/else bodies, loops, match
arm blocks, if-expressions, comprehensions, closures, call arguments … — every expression position is handed to
`check_expr`, and every statement of every block to `check_statement`.  (Which roles a construct has, and that
none is skipped, is what the correspondence checks against the implementation, role by role.) -/
theorem every_position_checked (body : Blk) (id : Nat) (h : id ∈ allBlk body) : id ∈ visitBlk body := by
  rw [visitBlk_all]; exact h

/-- Before the `elif` fix the skip table named the two `elif` roles; position 2 of this program stands under one of
them, so a traversal with that table does not reach it. -/
theorem elif_was_skipped :
    let skippedOld : String → Bool := fun r => r == "If.elifcond" || r == "If.elif"
    let prog : Blk := .mk "Function.body" [.mk [.mk 1 "If.cond" [] []] [.mk "If.then" [], .mk "If.elif" [.mk [.mk 2 "ExprStmt" [] []] []]]]
    2 ∈ allBlk prog ∧ skippedOld "If.elif" = true := by
  decide

/-- MAIN (mutation through a binding): assigning a field or an element of `x`, or calling a `mut self` method on it,
is rejected whenever the nearest `x` of the function is immutable — at any nesting depth below its declaration —
unless `x` is the variable of an enclosing `for` loop. -/
theorem mutation_through_immutable_rejected (fs : Frames) (loopVars : List String) (n : String) (b : Binding)
    (hfound : lookupInFunction fs n = some b) (himm : b.isMutable = false) (hloop : n ∉ loopVars) :
    checkMutateThrough fs loopVars n = .mutationWithoutMut := by
  simp [checkMutateThrough, hloop, hfound, himm]

theorem mutation_through_mutable_accepted (fs : Frames) (loopVars : List String) (n : String) (b : Binding)
    (hfound : lookupInFunction fs n = some b) (hmut : b.isMutable = true) :
    checkMutateThrough fs loopVars n = .accepted := by
  simp [checkMutateThrough, hfound, hmut]

/-- MAIN (mutability): a plain `x = value` is rejected whenever the `x` it re-assigns — the nearest one bound in
this block or in any enclosing block of the function — is immutable, whatever the nesting depth. -/
theorem reassign_immutable_rejected (fs : Frames) (n : String) (b : Binding)
    (hfound : lookupInFunction fs n = some b) (himm : b.isMutable = false) :
    checkAssign fs n false = .mutationWithoutMut :=
  checkAssign_false fs n ▸ mutation_through_immutable_rejected fs [] n b hfound himm List.not_mem_nil

/-- … and accepted when it is mutable (no such binding, a fresh variable: `fresh_name_accepted`). -/
theorem reassign_mutable_accepted (fs : Frames) (n : String) (b : Binding)
    (hfound : lookupInFunction fs n = some b) (hmut : b.isMutable = true) :
    checkAssign fs n false = .accepted :=
  checkAssign_false fs n ▸ mutation_through_mutable_accepted fs [] n b hfound hmut

theorem fresh_name_accepted (fs : Frames) (n : String) (h : lookupInFunction fs n = none) :
    checkAssign fs n false = .accepted := by
  simp [checkAssign_false, checkMutateThrough, h]

/-- Searching only the innermost block loses the rule one block down (the shape of a seeded change). -/
theorem local_lookup_misses_nested_mutation :
    checkMutateThroughLocal [[], [⟨"c", false⟩]] "c" = .accepted ∧
    checkMutateThrough [[], [⟨"c", false⟩]] [] "c" = .mutationWithoutMut ∧
    checkMutateThrough [[], [], [⟨"c", false⟩]] ["p"] "c" = .mutationWithoutMut ∧
    checkMutateThrough [[⟨"p", false⟩], []] ["p"] "p" = .accepted := by decide

/-- The depth matters for the checker as it was: one block down, the same re-assignment was accepted. -/
theorem old_checker_missed_nested :
    checkAssignOld [[], [⟨"x", false⟩]] "x" = .accepted ∧ checkAssign [[], [⟨"x", false⟩]] "x" false = .mutationWithoutMut ∧
    checkAssign [[], [], [], [⟨"x", false⟩]] "x" false = .mutationWithoutMut := by decide

/-- MAIN (match): a variant that no arm names, in a match without a catch-all arm, is reported missing. -/
theorem omitted_variant_reported (variants : List String) (isOption : Bool) (arms : List Pat) (v : String)
    (hv : v ∈ variants)
    (hcatch : ∀ p ∈ arms, p ≠ .wildcard ∧ p ≠ .binding)
    (hnot : ∀ p ∈ arms, p ≠ .ctor v)
    (hnone : v = "None" → isOption = true → ∀ p ∈ arms, p ≠ .noneLiteral) :
    v ∈ missingVariants variants isOption arms := by
  have hany : ¬ arms.any (fun p => p == .wildcard || p == .binding) = true := fun hany => by
    obtain ⟨p, hp, hpc⟩ := List.any_eq_true.1 hany
    simp [hcatch p hp] at hpc
  have hcov : v ∉ coveredNames isOption arms := fun hmem => by
    obtain ⟨p, hp, hpv⟩ := List.mem_filterMap.1 hmem
    -- the three alternatives of `coveredNames`
    split at hpv
    · cases hpv; exact hnot _ hp rfl
    · split at hpv
      · next ho => cases hpv; exact hnone rfl ho _ hp rfl
      · cases hpv
    · cases hpv
  unfold missingVariants
  rw [if_neg hany]
  exact List.mem_filter.2 ⟨hv, by simp [hcov]⟩

/-- A complete match reports nothing (no false alarm). -/
theorem complete_match_accepted (variants : List String) (isOption : Bool) (arms : List Pat)
    (h : ∀ v ∈ variants, .ctor v ∈ arms) : missingVariants variants isOption arms = [] := by
  unfold missingVariants
  split
  · rfl
  · apply List.filter_eq_nil_iff.2
    intro v hv
    have hmem : v ∈ coveredNames isOption arms := List.mem_filterMap.2 ⟨.ctor v, h v hv, rfl⟩
    simp [hmem]

example : missingVariants ["Some", "None"] true [.ctor "Some"] = ["None"] := by decide
example : missingVariants ["Red", "Green", "Blue"] false [.ctor "Red", .ctor "Green"] = ["Blue"] := by decide
example : missingVariants ["Ok", "Err"] false [.ctor "Ok", .binding] = [] := by decide

/-- MAIN (arguments): in a call with positional arguments, every argument whose type the parameter at the same
position does not accept is reported — whatever the other parameters are (a trait-typed parameter earlier in the
list does not end the check). -/
theorem wrong_argument_reported (ok : String → String → Bool) (args : List CArg) (ps : List (String × String))
    (h : ∀ a ∈ args, a.name = none) (j : Nat) (hp : j < ps.length) (ha : j < args.length)
    (hbad : ok (args[j]).ty (ps[j]).2 = false) : j ∈ validateArgs ok args ps 0 :=
  (mem_validateArgs ok args h ps 0 j).2 ⟨j, args[j], ps[j], by simp, by simp [ha], by simp [hp], hbad⟩

/-- A keyword argument of the wrong type is reported wherever its parameter stands. -/
theorem wrong_named_argument_reported (ok : String → String → Bool) (args : List CArg) (ps : List (String × String))
    (pn pt : String) (hmem : (pn, pt) ∈ ps) (i : Nat) (aty : String) (hf : findNamed pn args 0 = some (i, aty))
    (hbad : ok aty pt = false) (k : Nat) : i ∈ validateArgs ok args ps k := by
  induction ps generalizing k with
  | nil => simp at hmem
  | cons p ps ih =>
    obtain ⟨qn, qt⟩ := p
    rcases List.mem_cons.1 hmem with heq | hrest
    · cases heq
      simp [validateArgs, hf, hbad]
    · unfold validateArgs
      split
      · exact List.mem_append_right _ (ih hrest k)
      · split
        · exact List.mem_append_right _ (ih hrest (k + 1))
        · exact ih hrest k

/-- Nothing is reported on a call whose arguments all fit (no false alarm), positional case. -/
theorem fitting_arguments_accepted (ok : String → String → Bool) (args : List CArg) (ps : List (String × String))
    (h : ∀ a ∈ args, a.name = none) (k : Nat)
    (hok : ∀ m, (hm : m < ps.length) → (hj : k + m < args.length) → ok (args[k + m]).ty (ps[m]).2 = true) :
    validateArgs ok args ps k = [] := by
  refine List.eq_nil_iff_forall_not_mem.2 fun i hi => ?_
  obtain ⟨m, a, p, -, ha, hp, hbad⟩ := (mem_validateArgs ok args h ps k i).1 hi
  obtain ⟨hj, rfl⟩ := List.getElem?_eq_some_iff.1 ha
  obtain ⟨hm, rfl⟩ := List.getElem?_eq_some_iff.1 hp
  rw [hok m hm hj] at hbad
  cases hbad

-- the shape that was lost when the loop left at the first trait-typed parameter
example : validateArgs (fun a e => a == e || (e == "Named" && a == "Dog"))
    [⟨none, "Dog"⟩, ⟨none, "str"⟩] [("who", "Named"), ("times", "int")] 0 = [1] := by decide
example : validateArgs (fun a e => a == e) [⟨none, "int"⟩, ⟨some "b", "str"⟩, ⟨some "b", "int"⟩]
    [("a", "int"), ("b", "int")] 0 = [] := by decide

/-- MAIN (arity, too many): a call with more positional arguments than parameters is reported, on the first
argument no parameter takes. -/
theorem surplus_argument_reported (args : List CArg) (ps : List (String × String))
    (h : ∀ a ∈ args, a.name = none) (hlen : ps.length < args.length) :
    ps.length ∈ surplusArgs args ps := by
  unfold surplusArgs
  apply List.mem_append_left
  rw [consumed_positional args h, Nat.zero_add, Nat.max_eq_right (Nat.zero_le _), Nat.min_eq_left (Nat.le_of_lt hlen),
    positionals_all args h 0 ps.length]
  simp [hlen]

/-- A keyword that names no parameter is reported on that argument. -/
theorem unknown_keyword_reported (args : List CArg) (ps : List (String × String)) (i : Nat) (hi : i < args.length)
    (n : String) (hn : (args[i]).name = some n) (hnot : n ∉ ps.map (·.1)) : i ∈ surplusArgs args ps := by
  unfold surplusArgs
  apply List.mem_append_right
  apply List.mem_filter.2
  refine ⟨List.mem_range.2 hi, ?_⟩
  have hc : (ps.map (·.1)).contains n = false := by simp [hnot]
  simp only [List.getElem?_eq_getElem hi, Option.bind_some, hn, hc, Bool.not_false]

/-- MAIN (arity, too few): in a positional call, every parameter beyond the arguments that has no default value is
reported missing. -/
theorem missing_argument_reported (args : List CArg) (h : ∀ a ∈ args, a.name = none) (defaults : List String)
    (ps : List (String × String)) (j : Nat) (hj : j < ps.length) (hbeyond : args.length ≤ j)
    (hd : (ps[j]).1 ∉ defaults) : (ps[j]).1 ∈ missingParams args defaults ps (positionalCount args) := by
  have hle : positionalCount args ≤ j := Nat.le_trans (List.length_filter_le _ _) hbeyond
  rw [missingParams_positional args h]
  refine List.mem_filter.2 ⟨List.mem_map.2 ⟨ps[j], ?_, rfl⟩, by simpa using hd⟩
  exact List.mem_drop_iff_getElem.2 ⟨j - positionalCount args, by omega, by simp [Nat.add_sub_cancel' hle]⟩

example : surplusArgs [⟨none, "int"⟩, ⟨none, "int"⟩] [("v", "int")] = [1] := by decide
example : surplusArgs [⟨none, "int"⟩, ⟨some "nope", "int"⟩] [("v", "int")] = [1] := by decide
example : missingParams [⟨none, "int"⟩] ["c"] [("a", "int"), ("b", "int"), ("c", "int")] 1 = ["b"] := by decide

/-- MAIN (defaults): a default value whose type the parameter does not accept is reported, at that parameter. -/
theorem wrong_default_reported (ok : String → String → Bool) (ps : List (String × String × Option String))
    (i : Nat) (n t d : String) (h : ps[i]? = some (n, t, some d)) (hbad : ok d t = false) :
    i ∈ defaultErrors ok ps := by
  unfold defaultErrors
  exact List.mem_filter.2 ⟨List.mem_range.2 (List.getElem?_eq_some_iff.1 h).1, by simp [h, hbad]⟩

/-- … and nothing else is: a declaration whose defaults all fit (or that has none) gets no default diagnostic. -/
theorem fitting_defaults_accepted (ok : String → String → Bool) (ps : List (String × String × Option String))
    (h : ∀ (i : Nat) (n t d : String), ps[i]? = some (n, t, some d) → ok d t = true) : defaultErrors ok ps = [] := by
  unfold defaultErrors
  refine List.filter_eq_nil_iff.2 fun i _ => ?_
  split
  · next n t d hp => simp [h i n t d hp]
  · simp

example : defaultErrors (· == ·) [("a", "int", some "int"), ("b", "str", some "int"), ("c", "bool", none)] = [1] := by decide

/-- MAIN (adoption, methods): a required method (no default body) that the adopter does not have is reported. -/
theorem missing_required_method_reported (okTy okSig : String → String → Bool) (t : TraitSpec) (a : Adopter)
    (m sig : String) (hm : (m, false, sig) ∈ t.methods) (hno : lookupS m a.methods = none) :
    .missingMethod m ∈ conformance okTy okSig t a := by
  unfold conformance
  apply List.mem_append_right
  apply List.mem_flatMap.2
  exact ⟨(m, false, sig), hm, by simp [hno]⟩

/-- A required method implemented with another signature is reported. -/
theorem wrong_signature_reported (okTy okSig : String → String → Bool) (t : TraitSpec) (a : Adopter)
    (m sig s : String) (hm : (m, false, sig) ∈ t.methods) (hs : lookupS m a.methods = some s)
    (hbad : okSig sig s = false) : .methodSig m ∈ conformance okTy okSig t a := by
  unfold conformance
  apply List.mem_append_right
  apply List.mem_flatMap.2
  exact ⟨(m, false, sig), hm, by simp [hs, hbad]⟩

/-- MAIN (adoption, fields): a `@requires` field the adopter lacks, or has with an incompatible type, is reported. -/
theorem missing_required_field_reported (okTy okSig : String → String → Bool) (t : TraitSpec) (a : Adopter)
    (f ty : String) (hf : (f, ty) ∈ t.requires) (hno : lookupS f a.fields = none) :
    .missingField f ∈ conformance okTy okSig t a := by
  unfold conformance
  apply List.mem_append_left
  apply List.mem_flatMap.2
  exact ⟨(f, ty), hf, by simp [hno]⟩

theorem wrong_field_type_reported (okTy okSig : String → String → Bool) (t : TraitSpec) (a : Adopter)
    (f ty fty : String) (hf : (f, ty) ∈ t.requires) (hs : lookupS f a.fields = some fty)
    (hbad : okTy fty ty = false) : .fieldType f ∈ conformance okTy okSig t a := by
  unfold conformance
  apply List.mem_append_left
  apply List.mem_flatMap.2
  exact ⟨(f, ty), hf, by simp [hs, hbad]⟩

/-- No false alarm: an adopter with every required field (compatible type) and every required method
(compatible signature) is accepted; default methods need not be re-declared. -/
theorem conforming_adopter_accepted (okTy okSig : String → String → Bool) (t : TraitSpec) (a : Adopter)
    (hf : ∀ f ty, (f, ty) ∈ t.requires → ∃ fty, lookupS f a.fields = some fty ∧ okTy fty ty = true)
    (hm : ∀ m sig, (m, false, sig) ∈ t.methods → ∃ s, lookupS m a.methods = some s ∧ okSig sig s = true) :
    conformance okTy okSig t a = [] := by
  unfold conformance
  rw [List.append_eq_nil_iff, List.flatMap_eq_nil_iff, List.flatMap_eq_nil_iff]
  constructor
  · rintro ⟨f, ty⟩ hx
    obtain ⟨fty, h1, h2⟩ := hf f ty hx
    simp [h1, h2]
  · rintro ⟨m, hasBody, sig⟩ hx
    cases hasBody with
    | true => rfl
    | false =>
      obtain ⟨s, h1, h2⟩ := hm m sig hx
      simp [h1, h2]

example : conformance (· == ·) (· == ·) ⟨[("name", "str")], [("area", false, "()->int"), ("describe", true, "()->str")]⟩
    ⟨[("w", "int")], [("describe", "()->str")]⟩ = [.missingField "name", .missingMethod "area"] := by decide

end Incan.Checker
