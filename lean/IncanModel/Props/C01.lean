import IncanModel.Sem.Regroup
import IncanModel.Lemmas.ClassChain
import IncanModel.Lemmas.Derive
import IncanModel.Sem.Comprehension
/-
C01 — compiled programs behave as the source says (core fragment; restructuring steps of the compiler).
-/
namespace Incan.Core

variable (call1 : String → V → List String → R V) (call2 : String → V → V → List String → R V)

theorem R.bind_congr {α β : Type} {r r' : R α} {f g : α → List String → R β} (hr : r = r')
    (hf : ∀ a o, f a o = g a o) : r.bind f = r'.bind g := by
  subst hr
  cases r with
  | ok a o => exact hf a o
  | stop w o => rfl

theorem R.bind_assoc {α β γ : Type} (r : R α) (f : α → List String → R β) (g : β → List String → R γ) :
    (r.bind f).bind g = r.bind fun a o => (f a o).bind g := by
  cases r <;> rfl

/-- Dropping the parenthesis *nodes* does not change the value of an expression tree.  (What the flat token
text re-parses to under Rust's precedence is a separate question: see `Safe` below and DESIGN.md.) -/
theorem desugarE_sound (env : Env) (out : List String) (e : E) :
    evalE call1 call2 env out (desugarE e) = evalE call1 call2 env out e := by
  -- every operator is a `bind` of the evaluations of its operands
  induction e generalizing env out with
  | int _ | bool _ | str _ | list _ | var _ => rfl
  | paren e ih => exact ih env out
  | neg e ih | not_ e ih | len e ih | call1 _ e ih => exact R.bind_congr (ih env out) fun _ _ => rfl
  | arith _ l r ihl ihr | cmp _ l r ihl ihr | concat l r ihl ihr | index l r ihl ihr | call2 _ l r ihl ihr =>
    exact R.bind_congr (ihl env out) fun _ o => R.bind_congr (ihr env o) fun _ _ => rfl
  | and_ l r ihl ihr | or_ l r ihl ihr =>
    exact R.bind_congr (ihl env out) fun _ _ => by simp only [ihr]

theorem bind_flow_id (r : R (Flow × Env)) :
    (r.bind fun fe o => match fe with
      | (.next, env') => R.ok (Flow.next, env') o
      | other => R.ok other o) = r := by
  cases r with
  | stop w o => rfl
  | ok fe o =>
    obtain ⟨f, e⟩ := fe
    cases f <;> rfl

theorem execB_single (fuel : Nat) (env : Env) (out : List String) (s : S) :
    execB call1 call2 fuel env out (.cons s .nil) = execS call1 call2 fuel env out s :=
  bind_flow_id _

mutual
  /-- MAIN: the compiler's restructuring (elif chains into nested if/else, compound assignment into plain
  assignment, parenthesis nodes removed) preserves the meaning of every statement — printed output, final
  variables, control flow and the way a run stops — for programs of any shape and nesting depth, every
  call oracle and every fuel. -/
  theorem desugarS_sound (fuel : Nat) (env : Env) (out : List String) (s : S) :
      execS call1 call2 fuel env out (desugarS s) = execS call1 call2 fuel env out s := by
    cases s with
    | brk | cont => rfl
    | letS _ _ e | assign _ e | append _ e | ret e | print e | exprS e =>
      exact R.bind_congr (desugarE_sound call1 call2 env out e) fun _ _ => rfl
    | print2 a b =>
      exact R.bind_congr (desugarE_sound call1 call2 env out a) fun _ o =>
        R.bind_congr (desugarE_sound call1 call2 env o b) fun _ _ => rfl
    | aug x op e =>
      -- `x = x op e` reads `x` before it evaluates `e`, as `x op= e` does
      show ((match env.get x with | some v => R.ok v out | none => .stop .stuck out).bind _).bind _ = _
      unfold execS
      simp only [desugarE_sound]
      cases env.get x with
      | none => rfl
      | some xv => exact R.bind_assoc (evalE call1 call2 env out e) _ _
    | ifS c thn els =>
      unfold desugarS execS
      simp only [desugarE_sound, desugarB_sound fuel _ _ thn, desugarElse_sound fuel _ _ els]
    | whileS _ body | forRange _ _ _ body | forList _ _ body =>
      unfold desugarS execS
      simp only [desugarE_sound, desugarB_sound fuel _ _ body]
  theorem desugarB_sound (fuel : Nat) (env : Env) (out : List String) (b : Blk) :
      execB call1 call2 fuel env out (desugarB b) = execB call1 call2 fuel env out b := by
    cases b with
    | nil => rfl
    | cons s rest =>
      unfold desugarB execB
      simp only [desugarS_sound fuel _ _ s, desugarB_sound fuel _ _ rest]
  theorem desugarElse_sound (fuel : Nat) (env : Env) (out : List String) (els : Else) :
      execElse call1 call2 fuel env out (desugarElse els) = execElse call1 call2 fuel env out els := by
    cases els with
    | none => rfl
    | else_ body => exact desugarB_sound fuel env out body
    | elif c thn rest =>
      -- else { if c { thn } else { rest } }  =  elif c: thn … rest
      unfold desugarElse execElse
      rw [execB_single]
      unfold execS
      simp only [desugarE_sound, desugarB_sound fuel _ _ thn, desugarElse_sound fuel _ _ rest]
end

mutual
  /-- The restructured program only uses the core constructs (nested if/else, plain assignment). -/
  theorem desugarS_core (s : S) : coreS (desugarS s) = true := by
    cases s with
    | letS _ _ _ | assign _ _ | aug _ _ _ | append _ _ | ret _ | print _ | print2 _ _ | exprS _ | brk | cont => rfl
    | ifS c thn els => exact Bool.and_eq_true_iff.2 ⟨desugarB_core thn, desugarElse_core els⟩
    | whileS _ body | forRange _ _ _ body | forList _ _ body => exact desugarB_core body
  theorem desugarB_core (b : Blk) : coreB (desugarB b) = true := by
    cases b with
    | nil => rfl
    | cons s rest => exact Bool.and_eq_true_iff.2 ⟨desugarS_core s, desugarB_core rest⟩
  theorem desugarElse_core (els : Else) : coreElse (desugarElse els) = true := by
    cases els with
    | none => rfl
    | else_ body => exact desugarB_core body
    | elif c thn rest =>
      exact Bool.and_eq_true_iff.2 ⟨Bool.and_eq_true_iff.2 ⟨desugarB_core thn, desugarElse_core rest⟩, rfl⟩
end

/-- The same restructuring applied to every function of a program. -/
def desugarFn (fn : Fn) : Fn := { fn with body := desugarB fn.body }

theorem findFn_map (fns : List Fn) (f : String) :
    findFn (fns.map desugarFn) f = (findFn fns f).map desugarFn := by
  unfold findFn
  rw [List.find?_map]
  rfl

/-- Whole programs: calling any function of the restructured program gives what the source program gives
(value, output, stop reason), for every call depth. -/
theorem program_desugar_sound (fns : List Fn) (n : Nat) (f : String) (v : V) (out : List String) :
    runCall1 (fns.map desugarFn) n f v out = runCall1 fns n f v out := by
  induction n generalizing f v out with
  | zero => rfl
  | succ n ih =>
    unfold runCall1
    rw [findFn_map, funext fun f => funext fun v => funext (ih f v)]
    cases findFn fns f with
    | none => rfl
    | some fn =>
      -- `desugarFn fn` has the parameters of `fn` and the body `desugarB fn.body`
      show (match fn.params with | [p] => R.bind (execB _ _ n [(p, v)] out (desugarB fn.body)) _ | _ => _) = _
      simp only [desugarB_sound]
      rfl

/-- An `elif` chain is tried in source order: when the first condition holds, its branch runs, and only it. -/
theorem elif_order (fuel : Nat) (env : Env) (out : List String) (c1 c2 : E) (b1 b2 : Blk) (rest : Else)
    (o1 : List String) (h1 : evalE call1 call2 env out c1 = .ok (.bool true) o1) :
    execElse call1 call2 fuel env out (.elif c1 b1 (.elif c2 b2 rest)) = execB call1 call2 fuel env o1 b1 := by
  simp [execElse, h1, R.bind]

/-- The comparison of the string helpers and the one a derived `Ord` uses on `str` fields are one function. -/
theorem strCmp_eq_cmpStr (a b : List Char) : strCmp a b = Derive.cmpStr a b := by
  induction a generalizing b with
  | nil => cases b <;> rfl
  | cons x xs ih =>
    cases b with
    | nil => rfl
    | cons y ys => rw [strCmp, Derive.cmpStr, ih]

theorem strCmp_swap (a b : List Char) : strCmp b a = (strCmp a b).swap := by
  rw [strCmp_eq_cmpStr, strCmp_eq_cmpStr]; exact Derive.cmpStr_swap a b

theorem strCmp_refl (a : List Char) : strCmp a a = .eq := Ordering.eq_eq_of_eq_swap (strCmp_swap a a)

/-- `<=` is "less or equal", `>=` is "not less", and both hold on equal strings (incl. two empty ones). -/
theorem strRel_le (a b : List Char) : strRel .le a b = (strRel .lt a b || strRel .eq a b) := by
  unfold strRel; cases strCmp a b <;> rfl
theorem strRel_ge (a b : List Char) : strRel .ge a b = (strRel .gt a b || strRel .eq a b) := by
  unfold strRel; cases strCmp a b <;> rfl
theorem strRel_refl (a : List Char) : strRel .le a a = true ∧ strRel .ge a a = true ∧ strRel .eq a a = true ∧ strRel .lt a a = false := by
  simp [strRel, strCmp_refl]
theorem strRel_flip (a b : List Char) : strRel .gt a b = strRel .lt b a ∧ strRel .ge a b = strRel .le b a := by
  unfold strRel
  rw [strCmp_swap a b]
  cases strCmp a b <;> exact ⟨rfl, rfl⟩

/-- Binding strength of the Incan operators that are emitted as Rust infix/prefix operators, and of their Rust
images.  (`//`, `%`, string operators, `len`, indexing and calls are emitted as function calls, whose
arguments are delimited by the call's own parentheses.) -/
inductive Infix where | or_ | and_ | not_ | cmp | addsub | mul | neg
deriving DecidableEq, Repr

def incanLevel : Infix → Nat
  | .or_ => 0 | .and_ => 1 | .not_ => 2 | .cmp => 3 | .addsub => 5 | .mul => 6 | .neg => 8
def rustLevel : Infix → Nat
  | .or_ => 0 | .and_ => 1 | .cmp => 3 | .addsub => 5 | .mul => 6 | .neg => 8 | .not_ => 8   -- `!` is a unary operator

/-- Two operators nest the same way in both languages when their relative binding strength agrees. -/
def sameNesting (p q : Infix) : Bool :=
  (incanLevel p < incanLevel q) == (rustLevel p < rustLevel q) &&
  (incanLevel q < incanLevel p) == (rustLevel q < rustLevel p)

theorem rustLevel_eq {p : Infix} (hp : p ≠ .not_) : rustLevel p = incanLevel p := by
  cases p with
  | not_ => exact absurd rfl hp
  | _ => rfl

/-- Without parentheses, the only operator whose Rust image nests differently is `not`
(`not a == b` is `not (a == b)` in Incan, `(!a) == b` in Rust). -/
theorem only_not_regroups : ∀ p q : Infix, p ≠ .not_ → q ≠ .not_ → sameNesting p q = true := by
  intro p q hp hq
  simp only [sameNesting, rustLevel_eq hp, rustLevel_eq hq, beq_self_eq_true, Bool.and_self]

theorem not_regroups : sameNesting .not_ .cmp = false ∧ sameNesting .not_ .addsub = false := by decide

/-- `Safe b`: rustc reads the text emitted for `b` with exactly the grouping of the source tree (the check
computes it for every generated program and reports the unsafe ones under the recorded finding). -/
def Safe (b : Blk) : Prop := regroupB b = some (desugarB b)

/-- MAIN (partial: programs whose emitted text rustc groups as the source does — `Safe`; the full statement is
false, see `grouping_lost_witness`).  For a Safe body, the program rustc compiles means what the source means:
same output, same final variables, same control flow, same way of stopping — any shape, any depth. -/
theorem compile_preserves_meaning_partial (b compiled : Blk) (hs : Safe b) (hc : regroupB b = some compiled)
    (fuel : Nat) (env : Env) (out : List String) :
    execB call1 call2 fuel env out compiled = execB call1 call2 fuel env out b := by
  obtain rfl : desugarB b = compiled := Option.some.inj (hs.symm.trans hc)
  exact desugarB_sound call1 call2 fuel env out b

/-- The full statement fails: `(a + b) * (a - b)` is emitted as `a + b * a - b`, which rustc reads as
`a + (b * a) - b`; likewise `not (a < b)` becomes `!a < b`, i.e. `(!a) < b`.  Kernel-checked re-readings. -/
theorem grouping_lost_witness :
    regroupE (.arith .mul (.paren (.arith .add (.var "a") (.var "b"))) (.paren (.arith .sub (.var "a") (.var "b")))) =
      some (.arith .sub (.arith .add (.var "a") (.arith .mul (.var "b") (.var "a"))) (.var "b")) ∧
    regroupE (.not_ (.paren (.cmp .lt (.var "a") (.var "b")))) = some (.cmp .lt (.not_ (.var "a")) (.var "b")) ∧
    regroupS (.aug "acc" .mul (.arith .sub (.var "b") (.int 6))) =
      some (.assign "acc" (.arith .sub (.arith .mul (.var "acc") (.var "b")) (.int 6))) := by
  -- `regroupE` is compiled by well-founded recursion and does not reduce by `rfl` or `decide`: rewriting with its
  -- equations evaluates it
  refine ⟨?_, ?_, ?_⟩ <;>
    simp [regroupS, regroupE, flat, parseFlat, parsePrimary, parseClimb, parseRhs, BinTok.prec, BinTok.build, isStrE]

/-- Non-vacuity: programs without such operator nestings are Safe (and most generated programs are). -/
example : Safe (.cons (.print (.arith .add (.arith .mul (.var "a") (.var "b")) (.int 1))) (.cons (.aug "acc" .add (.arith .mul (.var "a") (.int 2))) .nil)) := by
  unfold Safe
  simp [regroupB, regroupS, regroupE, flat, parseFlat, parsePrimary, parseClimb, parseRhs, BinTok.prec, BinTok.build,
    desugarB, desugarS, desugarE]

example : desugarElse (.elif (.var "a") .nil (.else_ .nil)) = .else_ (.cons (.ifS (.var "a") .nil (.else_ .nil)) .nil) := by rfl

end Incan.Core

/-! ### Classes: overriding (model in Sem/Derive; stated here because it is program behaviour: which body a
method call runs) -/
namespace Incan.Derive

/-- MAIN (dynamic dispatch along `extends`): calling `m` on an instance of `Ci` runs the body written in the most
derived class of `C0 <- … <- Ci` that declares `m`. -/
theorem method_call_runs_most_derived_body (levels : List (String × List String))
    (hnd : (levels.map (·.1)).Nodup) (i : Nat) (hi : i < levels.length) (m : String) :
    dispatch (inheritedMethods (chainDecls levels none) (chainDecls (α := List String) levels none).length (levels[i]).1) m
      = specOwner (levels.take (i + 1)) m :=
  methods_chain levels hnd i hi _ (by rw [chainDecls_length]; exact hi) m

/-- an overriding method is never shadowed by the inherited one -/
theorem redeclared_method_is_own (levels : List (String × List String))
    (hnd : (levels.map (·.1)).Nodup) (i : Nat) (hi : i < levels.length) (m : String) (hm : m ∈ (levels[i]).2) :
    dispatch (inheritedMethods (chainDecls levels none) (chainDecls (α := List String) levels none).length (levels[i]).1) m
      = some (levels[i]).1 := by
  rw [method_call_runs_most_derived_body levels hnd i hi m, List.take_succ_eq_append_getElem hi, specOwner_snoc]
  simp [hm]

end Incan.Derive

/-! ### List comprehensions: the emitted iterator chain means what the source says -/
namespace Incan.Comp

/-- The emitted iterator chain computes the comprehension's meaning, for every list, condition and element. -/
theorem emitted_eq_meaning {α β : Type} (xs : List α) (cond : α → Bool) (elem : α → β) :
    emitted xs cond elem = meaning xs cond elem := by
  unfold emitted
  induction xs with
  | nil => rfl
  | cons x rest ih =>
    simp only [meaning, List.filter_cons]
    cases cond x <;> simp [ih]

/-- Every collected value comes from an element that passed the condition (nothing is filtered on the mapped value). -/
theorem meaning_mem {α β : Type} (xs : List α) (cond : α → Bool) (elem : α → β) (y : β) :
    y ∈ meaning xs cond elem ↔ ∃ x ∈ xs, cond x = true ∧ elem x = y := by
  rw [← emitted_eq_meaning]
  unfold emitted
  simp [List.mem_map, List.mem_filter, and_assoc]

/-- `[x + 1 for x in range(6) if x % 2 == 0]`: map-then-filter answers `[2, 4, 6]`… wrong: it keeps the even *results*. -/
theorem map_then_filter_differs :
    meaning [0, 1, 2, 3, 4, 5] (fun x => x % 2 == 0) (fun x => x + 1) = [1, 3, 5] ∧
    mapThenFilter [0, 1, 2, 3, 4, 5] (fun x => x % 2 == 0) (fun x => x + 1) = [2, 4, 6] := by decide

end Incan.Comp
